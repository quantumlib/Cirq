import CirqVerif.Generated.C13.R_x_1p5
import CirqVerif.Proofs.Dyadic
/-! GENERATED obligation (re-decided on every run). -/
namespace CirqVerif.Generated.C13
open CirqVerif CirqVerif.C13

/-- the tableau update of `x_1p5` maps every row Pauli `P` to `U P U†` for the matrix `U` that `cirq.unitary` reports -/
theorem tableau_rule_x_1p5 : (isUnitary u_x_1p5 && ruleIsConjugation u_x_1p5 rule_x_1p5) = true :=
  tableau_rule_of_dyadic 5 (by decide +kernel)

end CirqVerif.Generated.C13
