import CirqVerif.Generated.C13.R_cz_1
import CirqVerif.Proofs.Dyadic
/-! GENERATED obligation (re-decided on every run). -/
namespace CirqVerif.Generated.C13
open CirqVerif CirqVerif.C13

/-- the tableau update of `cz_1` maps every row Pauli `P` to `U P U†` for the matrix `U` that `cirq.unitary` reports -/
theorem tableau_rule_cz_1 : (isUnitary u_cz_1 && ruleIsConjugation u_cz_1 rule_cz_1) = true :=
  tableau_rule_of_dyadic 5 (by decide +kernel)

end CirqVerif.Generated.C13
