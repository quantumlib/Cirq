import CirqVerif.Generated.C03.cirq_Rz
import CirqVerif.Proofs.GateDocs
import CirqVerif.Proofs.Dyadic
/-! GENERATED obligations about the extracted eigen-components (re-checked on every run). -/
namespace CirqVerif.Generated.C03
open CirqVerif CirqVerif.Eigen CirqVerif.GateDocs

theorem cirq_Rz_projector_laws : projectorLaws cirq_Rz = true := projectorLaws_of_dyadic 5 (by decide +kernel)
/-- the eigen-components the code carries are the ones the documentation theorem is about -/
theorem cirq_Rz_matches_doc : cirq_Rz = zpowComps (R := Q8) (0 : Rat) 1 := by decide +kernel
end CirqVerif.Generated.C03
