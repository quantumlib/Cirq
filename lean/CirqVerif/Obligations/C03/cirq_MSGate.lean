import CirqVerif.Generated.C03.cirq_MSGate
import CirqVerif.Proofs.GateDocs
import CirqVerif.Proofs.Dyadic
/-! GENERATED obligations about the extracted eigen-components (re-checked on every run). -/
namespace CirqVerif.Generated.C03
open CirqVerif CirqVerif.Eigen CirqVerif.GateDocs

theorem cirq_MSGate_projector_laws : projectorLaws cirq_MSGate = true := projectorLaws_of_dyadic 5 (by decide +kernel)
/-- the eigen-components the code carries are the ones the documentation theorem is about -/
theorem cirq_MSGate_matches_doc : cirq_MSGate = xxpowComps envQ8 0 1 := by decide +kernel
end CirqVerif.Generated.C03
