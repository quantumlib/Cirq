import CirqVerif.Generated.C03.cirq_HPowGate
import CirqVerif.Proofs.GateDocs
import CirqVerif.Proofs.Dyadic
/-! GENERATED obligations about the extracted eigen-components (re-checked on every run). -/
namespace CirqVerif.Generated.C03
open CirqVerif CirqVerif.Eigen CirqVerif.GateDocs

theorem cirq_HPowGate_projector_laws : projectorLaws cirq_HPowGate = true := projectorLaws_of_dyadic 5 (by decide +kernel)
/-- the eigen-components the code carries are the ones the documentation theorem is about -/
theorem cirq_HPowGate_matches_doc : cirq_HPowGate = hpowComps envQ8 0 1 := by decide +kernel
end CirqVerif.Generated.C03
