import CirqVerif.Generated.C03.cirq_SwapPowGate
import CirqVerif.Proofs.GateDocs
import CirqVerif.Proofs.Dyadic
/-! GENERATED obligations about the extracted eigen-components (re-checked on every run). -/
namespace CirqVerif.Generated.C03
open CirqVerif CirqVerif.Eigen CirqVerif.GateDocs

theorem cirq_SwapPowGate_projector_laws : projectorLaws cirq_SwapPowGate = true := projectorLaws_of_dyadic 5 (by decide +kernel)
/-- the eigen-components the code carries are the ones the documentation theorem is about -/
theorem cirq_SwapPowGate_matches_doc : cirq_SwapPowGate = swappowComps envQ8 0 1 := by decide +kernel
end CirqVerif.Generated.C03
