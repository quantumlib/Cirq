import CirqVerif.Generated.C03.cirq_CCZPowGate
import CirqVerif.Proofs.GateDocs
import CirqVerif.Proofs.Dyadic
/-! GENERATED obligations about the extracted eigen-components (re-checked on every run). -/
namespace CirqVerif.Generated.C03
open CirqVerif CirqVerif.Eigen CirqVerif.GateDocs

theorem cirq_CCZPowGate_projector_laws : projectorLaws cirq_CCZPowGate = true := projectorLaws_of_dyadic 5 (by decide +kernel)
end CirqVerif.Generated.C03
