import CirqVerif.Model.C05
import CirqVerif.Proofs.Lists
/-!
What the editing functions of Model/C05 do to a circuit.  The calls that add material (`insert`, `append`, `insert_into_range`) are
edits in the sense of `Adds`: every step of their control flow is shown once to be such an edit, and conservation and
well-formedness of the whole are read off.  The other mutators (`batch_remove`, `batch_replace`, `batch_insert_into`,
`clear_operations_touching`) get well-formedness only; `batch_insert` reduces to `insert`, and so does `Circuit(...)` unless the
strategy is EARLIEST.
-/
namespace CirqVerif.C05

def opsOfMop : Mop → List Op
  | .op o => [o]
  | .mom m => m

def opsOfMops (mops : List Mop) : List Op := mops.flatMap opsOfMop

@[simp] theorem opsOfMops_nil : opsOfMops [] = [] := rfl

@[simp] theorem opsOfMops_cons (m : Mop) (ms : List Mop) : opsOfMops (m :: ms) = opsOfMop m ++ opsOfMops ms := by
  simp [opsOfMops]

theorem opsOfMops_append (a b : List Mop) : opsOfMops (a ++ b) = opsOfMops a ++ opsOfMops b := by
  simp [opsOfMops]

def opWF (o : Op) : Bool := o.qubits.eraseDups.length == o.qubits.length

def mopWF : Mop → Bool
  | .op o => opWF o
  | .mom m => momentWF m

theorem disj_iff (a b : List Nat) : disj a b = true ↔ ∀ x ∈ a, x ∉ b := by
  simp [disj, List.all_eq_true]

theorem disj_eq_false_iff (a b : List Nat) : disj a b = false ↔ ∃ x ∈ a, x ∈ b := by
  rw [← Bool.not_eq_true, disj_iff]; simp

theorem disj_flatMap_right {α : Type} (a : List Nat) (l : List α) (f : α → List Nat) :
    disj a (l.flatMap f) = true ↔ ∀ x ∈ l, disj a (f x) = true := by
  simp only [disj_iff, List.mem_flatMap, not_exists, not_and]
  exact ⟨fun h x hx q hq => h q hq x hx, fun h q hq x hx => h x hx q hq⟩

theorem operatesOn_eq_false {m : Moment} {qs : List Nat} : operatesOn m qs = false ↔ ∀ q ∈ qs, q ∉ mQubits m := by
  simp [operatesOn, disj_iff]

theorem momentWF_iff {m : Moment} :
    momentWF m = true ↔ (∀ o ∈ m, opWF o = true) ∧ m.Pairwise (fun a b => disj a.qubits b.qubits = true) := by
  induction m with
  | nil => simp [momentWF]
  | cons o os ih =>
    rw [momentWF, Bool.and_eq_true, Bool.and_eq_true, ih, mQubits, disj_flatMap_right, List.forall_mem_cons,
      List.pairwise_cons]
    exact ⟨fun ⟨⟨a, b⟩, c, d⟩ => ⟨⟨b, c⟩, a, d⟩, fun ⟨⟨b, c⟩, a, d⟩ => ⟨⟨a, b⟩, c, d⟩⟩

theorem momentWF_ops {m : Moment} (h : momentWF m = true) : ∀ o ∈ m, opWF o = true := (momentWF_iff.mp h).1

theorem momentWF_opsOfMop (mop : Mop) : momentWF (opsOfMop mop) = mopWF mop := by
  cases mop with
  | mom m => rfl
  | op o => simp [opsOfMop, mopWF, momentWF, mQubits, disj, opWF]

theorem momentWF_append {x y : Moment} (hx : momentWF x = true) (hy : momentWF y = true)
    (hd : ∀ q ∈ mQubits x, q ∉ mQubits y) : momentWF (x ++ y) = true := by
  rw [momentWF_iff] at *
  refine ⟨List.forall_mem_append.mpr ⟨hx.1, hy.1⟩, List.pairwise_append.mpr ⟨hx.2, hy.2, fun a ha b hb => ?_⟩⟩
  exact (disj_iff ..).mpr fun q hqa hqb => hd q (List.mem_flatMap.mpr ⟨a, ha, hqa⟩) (List.mem_flatMap.mpr ⟨b, hb, hqb⟩)

theorem momentWF_sublist {x y : Moment} (h : x.Sublist y) (hy : momentWF y = true) : momentWF x = true := by
  rw [momentWF_iff] at *
  exact ⟨fun o ho => hy.1 o (h.subset ho), hy.2.sublist h⟩

theorem withOperation_ok {m m' : Moment} {o : Op} :
    withOperation m o = .ok m' → m' = m ++ [o] ∧ operatesOn m o.qubits = false := by
  fun_cases withOperation m o with
  | case1 => rintro ⟨⟩
  | case2 hd => rintro ⟨⟩; exact ⟨rfl, Bool.eq_false_iff.mpr hd⟩

theorem withOperation_wf {m m' : Moment} {o : Op} (h : withOperation m o = .ok m') (hm : momentWF m = true)
    (ho : opWF o = true) : momentWF m' = true := by
  obtain ⟨rfl, hd⟩ := withOperation_ok h
  exact momentWF_append hm (momentWF_opsOfMop (.op o) ▸ ho) fun q hq hqo =>
    operatesOn_eq_false.mp hd q (by simpa [mQubits] using hqo) hq

theorem withOperations_ok {m m' : Moment} {ops : List Op} (h : withOperations m ops = .ok m') :
    m' = m ++ ops ∧ (momentWF m = true → (∀ o ∈ ops, opWF o = true) → momentWF m' = true) := by
  induction ops generalizing m with
  | nil => cases h; exact ⟨by simp, fun hm _ => hm⟩
  | cons o os ih =>
    obtain ⟨m1, hw, h⟩ := bind_ok h
    obtain ⟨rfl, hwf⟩ := ih h
    refine ⟨by rw [(withOperation_ok hw).1]; simp, fun hm ho => hwf (withOperation_wf hw hm (ho o (by simp))) ?_⟩
    exact fun x hx => ho x (by simp [hx])

theorem mkMoment_ok {ops : List Op} {m : Moment} (h : mkMoment ops = .ok m) : m = ops := (withOperations_ok h).1

theorem mkMoment_wf {ops : List Op} {m : Moment} (h : mkMoment ops = .ok m) (ho : ∀ o ∈ ops, opWF o = true) :
    momentWF m = true := (withOperations_ok h).2 rfl ho

theorem circuitWF_iff {ms : Circuit} : circuitWF ms = true ↔ ∀ m ∈ ms, momentWF m = true := List.all_eq_true

theorem circuitWF_set {ms : Circuit} {p : Nat} {m : Moment} (h : circuitWF ms = true) (hm : momentWF m = true) :
    circuitWF (ms.set p m) = true := by
  rw [circuitWF_iff] at *
  intro x hx
  rcases List.mem_or_eq_of_mem_set hx with h1 | rfl
  · exact h x h1
  · exact hm

theorem getD_wf {ms : Circuit} {j : Nat} (h : circuitWF ms = true) : momentWF (ms[j]?.getD []) = true := by
  cases hj : ms[j]? with
  | none => rfl
  | some m => exact circuitWF_iff.mp h m (List.mem_of_getElem? hj)

theorem listInsert_perm {α : Type} (l : List α) (k : Nat) (x : α) : (listInsert l k x).Perm (x :: l) := by
  have := List.perm_middle (a := x) (l₁ := l.take k) (l₂ := l.drop k)
  rwa [List.take_append_drop] at this

/-- `ms'` is `ms` with the material `mops` added: no operation is lost or duplicated, and `ms'` is well-formed if `ms` and
the material are -/
structure Adds (ms : Circuit) (mops : List Mop) (ms' : Circuit) : Prop where
  perm : (allOps ms').Perm (allOps ms ++ opsOfMops mops)
  wf : circuitWF ms = true → (∀ mop ∈ mops, mopWF mop = true) → circuitWF ms' = true

namespace Adds

theorem refl (ms : Circuit) : Adds ms [] ms := ⟨by simp, fun h _ => h⟩

theorem trans {a b c : Circuit} {x y : List Mop} (h1 : Adds a x b) (h2 : Adds b y c) : Adds a (x ++ y) c where
  perm := by
    rw [opsOfMops_append, ← List.append_assoc]
    exact h2.perm.trans (List.Perm.append_right _ h1.perm)
  wf h hm := h2.wf (h1.wf h fun m hx => hm m (List.mem_append_left _ hx)) fun m hy => hm m (List.mem_append_right _ hy)

theorem of_perm {a b : Circuit} {x y : List Mop} (h : Adds a x b) (hp : x.Perm y) : Adds a y b :=
  ⟨h.perm.trans (List.Perm.append_left _ (hp.flatMap_right _)), fun hw hm => h.wf hw fun m hx => hm m (hp.mem_iff.mp hx)⟩

theorem insert_mop (ms : Circuit) (k : Nat) (mop : Mop) : Adds ms [mop] (listInsert ms k (opsOfMop mop)) where
  perm := by
    have := (listInsert_perm ms k (opsOfMop mop)).flatten
    simpa [allOps] using this.trans List.perm_append_comm
  wf h hm := by
    rw [circuitWF, (listInsert_perm ms k _).all_eq, List.all_cons, momentWF_opsOfMop, hm mop (by simp)]
    exact h

theorem insert_nil (ms : Circuit) (k : Nat) : Adds ms [] (listInsert ms k []) :=
  ⟨(insert_mop ms k (.mom [])).perm, fun h _ => (insert_mop ms k (.mom [])).wf h (by simp [mopWF, momentWF])⟩

theorem append_op (ms : Circuit) (o : Op) : Adds ms [.op o] (ms ++ [[o]]) := by
  simpa [listInsert, opsOfMop] using insert_mop ms ms.length (.op o)

theorem withOperation {ms : Circuit} {p : Nat} {m m' : Moment} {o : Op} (hp : ms[p]? = some m)
    (hw : withOperation m o = .ok m') : Adds ms [.op o] (ms.set p m') where
  perm := by rw [(withOperation_ok hw).1]; exact flatten_set_append o hp
  wf h hm := circuitWF_set h
    (withOperation_wf hw (circuitWF_iff.mp h m (List.mem_of_getElem? hp)) (hm (.op o) (by simp)))

theorem foldlM {ε α β : Type} {f : β → α → Except ε β} (g : β → Circuit) (lab : α → List Mop)
    (step : ∀ b a b', f b a = .ok b' → Adds (g b) (lab a) (g b')) :
    ∀ {xs : List α} {b b' : β}, xs.foldlM f b = .ok b' → Adds (g b) (xs.flatMap lab) (g b')
  | [], _, _, h => by cases h; exact refl _
  | x :: xs, _, _, h => by
    rw [List.foldlM_cons] at h
    obtain ⟨b1, h1, h2⟩ := bind_ok h
    exact List.flatMap_cons ▸ (step _ _ _ h1).trans (foldlM g lab step h2)

end Adds

/-! Each function of the model of `Circuit.insert` is taken apart along its own branches (`fun_cases`): a branch that returns an
error is not `.ok _`, and what a successful branch returns is one of the edits above. -/

theorem determinePlacement_adds {s s1 : Loop} {mop : Mop} {p : Nat} :
    determinePlacement s mop = .ok (p, s1) → Adds s.ms [] s1.ms := by
  fun_cases determinePlacement s mop with
  | case5 | case8 => rintro ⟨⟩
  -- NEW and NEW_THEN_INLINE open an empty moment at `k`; the other branches leave the circuit alone
  | case3 | case4 => rintro ⟨⟩; exact .insert_nil _ _
  | case1 | case2 | case6 | case7 => rintro ⟨⟩; exact .refl _

theorem place_adds {ms ms' : Circuit} {p : Nat} {mop : Mop} : place ms p mop = .ok ms' → Adds ms [mop] ms' := by
  fun_cases place ms p mop with
  | case1 m => rintro ⟨⟩; exact .insert_mop ms p (.mom m)
  | case2 o => rintro ⟨⟩; exact .append_op ms o
  | case3 o _ m hm => intro h; obtain ⟨m', hw, rfl⟩ := map_ok h; exact .withOperation hm hw
  | case4 => rintro ⟨⟩

theorem iterate_ms (s : Loop) : (iterate s).ms = s.ms := by
  fun_cases iterate s <;> rfl

theorem placeOne_adds {s s' : Loop} {mop : Mop} {p : Nat} : placeOne s mop = .ok (s', p) → Adds s.ms [mop] s'.ms := by
  fun_cases placeOne s mop with
  | case1 | case2 => rintro ⟨⟩
  | case3 p s1 hd ms hp => rintro ⟨⟩; rw [iterate_ms]; exact (determinePlacement_adds hd).trans (place_adds hp)

theorem openBatch_adds (s : Loop) (batch : List Mop) : Adds s.ms [] (openBatch s batch).ms := by
  fun_cases openBatch s batch with
  | case1 => exact .insert_nil _ _
  | case2 => exact .refl _

theorem batchStep_adds {acc acc' : Loop × Nat} {mop : Mop} : batchStep acc mop = .ok acc' → Adds acc.1.ms [mop] acc'.1.ms := by
  fun_cases batchStep acc mop with
  | case1 => rintro ⟨⟩
  | case2 s' p hp => rintro ⟨⟩; exact placeOne_adds hp

theorem insertBatch_adds {s s' : Loop} {batch : List Mop} : insertBatch s batch = .ok s' → Adds s.ms batch s'.ms := by
  fun_cases insertBatch s batch with
  | case1 => rintro ⟨⟩
  | case2 s1 maxP hf =>
    rintro ⟨⟩
    exact List.flatMap_singleton' batch ▸
      (openBatch_adds s batch).trans (Adds.foldlM (·.1.ms) ([·]) (fun _ _ _ => batchStep_adds) hf)

/-! Batching only regroups the material, which is why `insert_adds` can speak of `mops` and not of the batches. -/

theorem flatten_close (out : List (List Mop)) (items : List Mop) :
    (if items.isEmpty then out else out ++ [items]).flatten = out.flatten ++ items := by
  cases items <;> simp

theorem groupStep_inv (acc : List (List Mop) × Batch) (mop : Mop) :
    (groupStep acc mop).1.flatten ++ (groupStep acc mop).2.items = acc.1.flatten ++ acc.2.items ++ [mop] := by
  obtain ⟨out, b⟩ := acc
  cases mop with
  | mom m => simp only [groupStep, List.flatten_append, flatten_close]; simp
  | op o =>
    simp only [groupStep]
    split <;> simp

theorem group_foldl_inv (mops : List Mop) (acc : List (List Mop) × Batch) :
    (mops.foldl groupStep acc).1.flatten ++ (mops.foldl groupStep acc).2.items
      = acc.1.flatten ++ acc.2.items ++ mops := by
  induction mops generalizing acc with
  | nil => simp
  | cons m ms ih => rw [List.foldl_cons, ih, groupStep_inv]; simp

theorem groupIntoMomentCompatible_flatten (mops : List Mop) :
    (groupIntoMomentCompatible mops).flatten = mops := by
  simp only [groupIntoMomentCompatible, flatten_close]
  exact group_foldl_inv mops ([], {})

theorem batchesOf_flatten (cached : Bool) (st : Strategy) (mops : List Mop) :
    (batchesOf cached st mops).flatten = mops := by
  fun_cases batchesOf cached st mops with
  | case1 => simp
  | case2 => exact List.flatMap_def .. ▸ List.flatMap_singleton' mops
  | case3 => exact groupIntoMomentCompatible_flatten mops

theorem insertLatestOne_adds {ms ms' : Circuit} {k : Nat} {mi mi' : Int} {mop : Mop} :
    insertLatestOne ms k mi mop = .ok (ms', mi') → Adds ms [mop] ms' := by
  fun_cases insertLatestOne ms k mi mop with
  | case1 m => rintro ⟨⟩; exact .insert_mop ms k (.mom m)
  -- an operation: a new moment at `k`, or it joins the latest moment that has room, or a new last moment
  | case2 o => rintro ⟨⟩; exact .insert_mop ms k (.op o)
  | case3 o _ _ _ _ m hm => intro h; obtain ⟨m', hw, ⟨⟩⟩ := map_ok h; exact .withOperation hm hw
  | case4 => rintro ⟨⟩
  | case5 o => rintro ⟨⟩; exact .append_op ms o

theorem insertLatest_adds {ms ms' : Circuit} {k pos : Nat} {batches : List (List Mop)} :
    insertLatest ms k batches = .ok (ms', pos) → Adds ms batches.flatten ms' := by
  fun_cases insertLatest ms k batches with
  | case1 => rintro ⟨⟩
  | case2 st hf =>
    rintro ⟨⟩
    have := Adds.foldlM (·.1) ([·]) (fun _ _ b' => insertLatestOne_adds (mi' := b'.2)) hf
    rw [List.flatMap_singleton'] at this
    -- the batches are taken last to first
    exact this.of_perm (List.reverse_perm _).flatten

theorem insert_adds {st st' : CState} {index : Int} {mops : List Mop} {s : Strategy} {k : Nat} :
    insert st index mops s = .ok (st', k) → Adds st.moments mops st'.moments := by
  fun_cases insert st index mops s with
  | case1 | case3 => rintro ⟨⟩
  -- LATEST goes its own way; every other strategy folds `insertBatch` over the batches
  | case2 _ _ _ _ ms pos hl => rintro ⟨⟩; exact batchesOf_flatten _ s mops ▸ insertLatest_adds hl
  | case4 _ _ _ _ s' hf =>
    rintro ⟨⟩
    have := Adds.foldlM (·.ms) id (fun _ _ _ => insertBatch_adds) hf
    rwa [List.flatMap_id, batchesOf_flatten] at this

theorem append_adds {st st' : CState} {mops : List Mop} {s : Strategy} (h : append st mops s = .ok st') :
    Adds st.moments mops st'.moments := by
  obtain ⟨r, hr, h⟩ := bind_ok h
  cases h
  exact insert_adds hr

theorem intoRangeLoop_adds {stop : Nat} {ms ms' : Circuit} {i : Nat} {ops rest : List Op} :
    intoRangeLoop stop ms i ops = .ok (ms', rest) → ∃ placed, ops = placed ++ rest ∧ Adds ms (placed.map .op) ms' := by
  fun_induction intoRangeLoop stop ms i ops with
  | case1 | case2 => rintro ⟨⟩; exact ⟨[], rfl, .refl _⟩
  | case3 | case5 => rintro ⟨⟩
  | case4 ms _ o os _ i _ m hm m' hw ih =>
    intro h
    obtain ⟨placed, rfl, ha⟩ := ih h
    exact ⟨o :: placed, rfl, (Adds.withOperation hm hw).trans ha⟩

theorem insertIntoRange_adds {st st' : CState} {ops : List Op} {a b : Int} {k : Nat} :
    insertIntoRange st ops a b = .ok (st', k) → Adds st.moments (ops.map .op) st'.moments := by
  fun_cases insertIntoRange st ops a b with
  | case1 | case2 => rintro ⟨⟩
  | case3 _ ms rest hl _ he =>
    dsimp +zetaDelta only  -- the model's `let st'` stands in the way of `rintro ⟨⟩`
    rintro ⟨⟩
    obtain ⟨placed, rfl, ha⟩ := intoRangeLoop_adds hl
    simpa [List.isEmpty_iff.mp he] using ha
  | case4 _ ms rest hl =>
    intro h
    obtain ⟨placed, rfl, ha⟩ := intoRangeLoop_adds hl
    exact List.map_append ▸ ha.trans (insert_adds h)

theorem removeStep_wf {ms ms' : Circuit} {r : Int × Op} (hwf : circuitWF ms = true) :
    removeStep ms r = .ok ms' → circuitWF ms' = true := by
  fun_cases removeStep ms r with
  | case1 | case2 => rintro ⟨⟩
  | case3 =>
    intro h
    obtain ⟨m', hk, rfl⟩ := map_ok h
    exact circuitWF_set hwf (mkMoment_wf hk (momentWF_ops (momentWF_sublist List.filter_sublist (getD_wf hwf))))

theorem replaceStep_wf {ms ms' : Circuit} {r : Int × Op × Op} (hwf : circuitWF ms = true) (hn : opWF r.2.2 = true) :
    replaceStep ms r = .ok ms' → circuitWF ms' = true := by
  fun_cases replaceStep ms r with
  | case1 | case2 => rintro ⟨⟩
  | case3 =>
    intro h
    obtain ⟨m', hk, rfl⟩ := map_ok h
    refine circuitWF_set hwf (mkMoment_wf hk fun o ho => ?_)
    obtain ⟨x, hx, rfl⟩ := List.mem_map.mp ho
    split
    · exact momentWF_ops (getD_wf hwf) x hx
    · exact hn

theorem insertIntoStep_wf {ms ms' : Circuit} {r : Int × List Op} (hwf : circuitWF ms = true)
    (ho : ∀ o ∈ r.2, opWF o = true) : insertIntoStep ms r = .ok ms' → circuitWF ms' = true := by
  fun_cases insertIntoStep ms r with
  | case1 => rintro ⟨⟩
  | case2 =>
    intro h
    obtain ⟨m', hk, rfl⟩ := map_ok h
    exact circuitWF_set hwf ((withOperations_ok hk).2 (getD_wf hwf) ho)

theorem clear_wf (st : CState) (qs : List Nat) (idxs : List Int) (hwf : circuitWF st.moments = true) :
    circuitWF (clearOperationsTouching st qs idxs).moments = true := by
  unfold clearOperationsTouching
  refine List.foldlRecOn (motive := fun ms => circuitWF ms = true) idxs _ hwf fun ms h k _ => ?_
  split
  · split
    · exact circuitWF_set h
        (momentWF_sublist List.filter_sublist (circuitWF_iff.mp h _ (List.mem_of_getElem? ‹_›)))
    · exact h
  · exact h

theorem mem_of_mem_stableSort {l : List (Int × List Mop)} : ∀ x ∈ stableSort l, x ∈ l := by
  unfold stableSort
  refine List.foldlRecOn (motive := fun acc => ∀ x ∈ acc, x ∈ l) l _ (by simp) fun acc h a ha x hx => ?_
  have hp := List.perm_middle (a := a) (l₁ := acc.takeWhile (·.1 ≤ a.1)) (l₂ := acc.dropWhile (·.1 ≤ a.1))
  rw [List.takeWhile_append_dropWhile] at hp
  rcases List.mem_cons.mp (hp.mem_iff.mp hx) with rfl | hx
  · exact ha
  · exact h x hx

theorem groupByIndex_ungroup (l : List (Int × List Mop)) : (groupByIndex l).flatMap (fun g => g.2.map (g.1, ·)) = l := by
  fun_induction groupByIndex l with
  | case1 => rfl
  -- the head joins the first group of the rest (same index), opens a group before it (another index), or is the only group
  | case2 t rest j ts more heq ih => rw [heq] at ih; simpa using ih
  | case3 i t rest j ts more heq _ ih => rw [heq] at ih; simpa using ih
  | case4 i t rest heq ih => rw [heq] at ih; simp [← ih]

/-! `Circuit(...)` with the EARLIEST strategy builds every moment from the placements of the cache. -/

theorem placeAll_mem (mops : List Mop) : ∀ p ∈ (placeAll mops).1, p.2 ∈ mops := by
  unfold placeAll
  refine List.foldlRecOn (motive := fun (acc : List (Nat × Mop) × Cache) => ∀ p ∈ acc.1, p.2 ∈ mops) mops _ (by simp) fun acc h m hm p hp => ?_
  rcases List.mem_append.mp hp with hp | hp
  · exact h p hp
  · cases List.mem_singleton.mp hp; exact hm

theorem buildMoment_wf {placed : List (Nat × Mop)} {i : Nat} {m : Moment} (hp : ∀ p ∈ placed, mopWF p.2 = true) :
    buildMoment placed i = .ok m → momentWF m = true := by
  -- both `filterMap`s hand out what entries of `placed` hold
  have hops : ∀ o ∈ placed.filterMap (fun p => match p with
      | (j, .op o) => if j = i then some o else none | _ => none), opWF o = true :=
    List.forall_mem_filterMap.mpr fun p hpm o hpo => by
      split at hpo
      · split at hpo <;> cases hpo; exact hp _ hpm
      · cases hpo
  fun_cases buildMoment placed i with
  | case1 _ _ m0 hlast =>
    refine fun h => (withOperations_ok h).2 ?_ hops
    obtain ⟨p, hpm, hpo⟩ := List.mem_filterMap.mp (List.mem_of_getLast? hlast)
    split at hpo
    · split at hpo <;> cases hpo; exact hp _ hpm
    · cases hpo
  | case2 => exact fun h => mkMoment_wf h hops

theorem loadEarliest_wf {mops : List Mop} {st : CState} (hm : ∀ mop ∈ mops, mopWF mop = true) :
    loadEarliest mops = .ok st → circuitWF st.moments = true := by
  fun_cases loadEarliest mops with
  | case1 => rintro ⟨⟩
  | case2 r ms hms =>
    rintro ⟨⟩
    refine circuitWF_iff.mpr fun m hmem => ?_
    obtain ⟨i, _, hi⟩ := mem_of_mapM_ok hms hmem
    exact buildMoment_wf (fun p hp => hm _ (placeAll_mem mops p hp)) hi

theorem newCircuit_wf {mops : List Mop} {s : Strategy} {st : CState} (hm : ∀ mop ∈ mops, mopWF mop = true) :
    newCircuit mops s = .ok st → circuitWF st.moments = true := by
  fun_cases newCircuit mops s with
  | case1 => rintro ⟨⟩; rfl
  | case2 =>
    rintro ⟨⟩
    refine circuitWF_iff.mpr (List.forall_mem_filterMap.mpr fun mop hmop m hx => ?_)
    split at hx <;> cases hx
    exact hm _ hmop
  | case3 => exact loadEarliest_wf hm
  | case4 => exact fun h => (append_adds h).wf rfl hm

theorem batchInsert_wf {st st' : CState} {items : List (Int × List Mop)} (h : batchInsert st items = .ok st')
    (hwf : circuitWF st.moments = true) (hc : ∀ r ∈ items, ∀ mop ∈ r.2, mopWF mop = true) :
    circuitWF st'.moments = true := by
  obtain ⟨acc, hacc, rfl⟩ := map_ok h
  refine foldlM_inv (fun acc => circuitWF acc.1.moments = true) hacc hwf fun g hg b b' hb => ?_
  fun_cases batchInsertStep b g with
  | case1 => rintro ⟨⟩
  | case2 _ cur' _ hi =>
    rintro ⟨⟩
    refine (insert_adds hi).wf hb fun mop hmop => ?_
    obtain ⟨t, ht, hmt⟩ := List.mem_flatten.mp hmop
    -- the tree `t` of group `g` is one of the requests
    have : (g.1, t) ∈ (groupByIndex (stableSort items)).flatMap (fun g => g.2.map (g.1, ·)) :=
      List.mem_flatMap.mpr ⟨g, hg, List.mem_map_of_mem (List.mem_reverse.mp ht)⟩
    rw [groupByIndex_ungroup] at this
    exact hc _ (mem_of_mem_stableSort _ this) mop hmt

/-- for Props/C05Lookup and the timestep factoring (Proofs/C07Timesteps): the scan as a `findIdx`, where `findIdx_reverse_take` applies -/
theorem earliestAvailable_eq (c : Circuit) (op : Op) (e : Nat) :
    earliestAvailable c op e = min e c.length - (c.take (min e c.length)).reverse.findIdx (conflicts · op) := by
  have := List.findIdx_le_length (p := (conflicts · op)) (xs := (c.take (min e c.length)).reverse)
  simp only [earliestAvailable, List.takeWhile_eq_take_findIdx_not, List.length_take, List.length_reverse,
    Bool.not_not] at this ⊢
  rw [Nat.min_eq_left this]

end CirqVerif.C05
