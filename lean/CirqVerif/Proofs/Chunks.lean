/-!
Both byte formats of measurement results (`cirq_google` `pack_bits`, LSB first; `np.packbits`, MSB first) cut
the bits into pieces of eight, encode each piece as a byte and decode a byte to eight bits, so that a short
last piece comes back padded.  What does not depend on the byte order is proved here once.
-/
namespace CirqVerif

variable {α : Type}

/-- `bs` cut into pieces of `n`; `fuel ≥ bs.length` pieces are always enough -/
def chunks (n : Nat) : Nat → List α → List (List α)
  | 0, _ => []
  | _, [] => []
  | fuel + 1, bs => bs.take n :: chunks n fuel (bs.drop n)

theorem length_le_of_mem_chunks {n fuel : Nat} {bs c : List α} (h : c ∈ chunks n fuel bs) : c.length ≤ n := by
  fun_induction chunks n fuel bs with
  | case1 | case2 => cases h
  | case3 fuel bs _ ih => exact (List.mem_cons.mp h).elim (· ▸ List.length_take_le _ _) ih

/-- if decoding an encoded piece returns it padded to `n`, decoding all pieces returns `bs` padded -/
theorem flatten_map_chunks {n : Nat} (hn : 0 < n) (pad : α) (g : List α → List α)
    (hg : ∀ c, c.length ≤ n → g c = c ++ List.replicate (n - c.length) pad)
    (fuel : Nat) (bs : List α) (h : bs.length ≤ fuel) :
    ∃ p, ((chunks n fuel bs).map g).flatten = bs ++ List.replicate p pad := by
  fun_induction chunks n fuel bs with
  | case1 bs => exact ⟨0, by rw [List.eq_nil_of_length_eq_zero (Nat.le_zero.mp h)]; rfl⟩
  | case2 => exact ⟨0, rfl⟩
  | case3 fuel bs _ ih =>
    rw [List.map_cons, List.flatten_cons, hg _ (List.length_take_le _ _)]
    by_cases hle : n ≤ bs.length
    · obtain ⟨p, hp⟩ := ih (by rw [List.length_drop]; omega)
      exact ⟨p, by rw [hp, List.length_take, Nat.min_eq_left hle, Nat.sub_self, List.replicate_zero,
        List.append_nil, ← List.append_assoc, List.take_append_drop]⟩
    · have hd : bs.drop n = [] := List.drop_eq_nil_of_le (by omega)
      have hc : chunks n fuel ([] : List α) = [] := by cases fuel <;> rfl
      exact ⟨n - bs.length, by rw [hd, hc, List.take_of_length_le (by omega)]; simp⟩

end CirqVerif
