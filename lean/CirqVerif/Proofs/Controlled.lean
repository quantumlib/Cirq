import CirqVerif.Model.C08
import CirqVerif.Proofs.Tensor
/-! A controlled operation acts as its target on the selected control states and as the identity elsewhere. -/
namespace CirqVerif.C08

theorem mem_product (p : PoS) (c : List Nat) : c ∈ product p ↔ satPoS p c = true := by
  induction p generalizing c with
  | nil => cases c <;> simp [product, satPoS]
  | cons vs rest ih =>
    cases c <;> simp only [product, satPoS, List.mem_flatMap, List.mem_map, ih, reduceCtorEq, and_false, exists_const,
      Bool.false_eq_true, List.cons.injEq, exists_eq_right_right, List.contains_eq_mem, Bool.and_eq_true,
      decide_eq_true_eq]

section
variable {R : Type} [Lean.Grind.CommRing R]

theorem mem_allIdx_of_valid (dims : List Nat) (b : Idx) (h : ValidIdx dims b) : b ∈ allIdx dims :=
  mem_allIdx.mpr h

theorem sumL_allIdx_delta (dims : List Nat) (x : Idx) (f : Idx → R) :
    sumL (allIdx dims) (fun a => if x = a then f a else 0) = if x ∈ allIdx dims then f x else 0 :=
  sumL_delta _ x f (allIdx_nodup dims)

/-- `sat` is any predicate on control tuples (products of sums, sums of products, qudit controls).  The row of
`controlledMat` at the index's own digits is block diagonal in the control digits: the block is `U` if `sat` holds of them and the
identity if not. -/
theorem applyOp_controlledMat (sat : List Nat → Bool) (U : Mat R) (shape caxes taxes : List Nat)
    (ψ : State R) (idx : Idx) (hv : ValidIdx shape idx) :
    applyOp (controlledMat sat caxes.length U)
        ((caxes ++ taxes).map (fun a => shape.getD a 1)) (caxes ++ taxes) ψ idx
      = if sat (getAxes idx caxes) then
          applyOp U (taxes.map (fun a => shape.getD a 1)) taxes ψ idx
        else ψ idx := by
  have hk : (getAxes idx caxes).length = caxes.length := List.length_map _
  split
  · next hs =>
    refine applyOp_append_of_block_row _ U shape caxes taxes ψ idx hv (fun a b ha => ?_)
    unfold controlledMat
    rw [List.take_left' hk, if_pos hs, List.take_left' ha, List.drop_left' hk, List.drop_left' ha]
  · next hs =>
    rw [← applyOp_one shape taxes ψ idx hv]
    refine applyOp_append_of_block_row _ _ shape caxes taxes ψ idx hv (fun a b ha => ?_)
    unfold controlledMat
    rw [List.take_left' hk, if_neg hs]
    by_cases hga : getAxes idx caxes = a
    · simp only [hga, List.append_cancel_left_eq, if_true]
    · rw [if_neg hga, if_neg (fun h => hga (List.append_inj_left h (hk.trans ha.symm)))]

end
end CirqVerif.C08
