import CirqVerif.Proofs.GateDocs
import CirqVerif.Spec.GateDocs2
/-!
Products of the documented matrices.  The matrices are lists of rows of size 2, 4 or 8, and `mul` has no algebraic laws
on lists of arbitrary shape, so every rule is proved by evaluation at its size, in three steps: rewrite the gates into
literal matrices whose entries are polynomials in a few phases `e^{iπt}` (the `*_eq` lemmas of `section forms`), evaluate the
products (`mat_eval`, from the lemmas that say what each operation does on literal rows), compare entries in the ring
(`mat_eq`) from the relations between those phases, which the rule states as `have`s.
-/
namespace CirqVerif.GateDocs
variable {A R : Type} [Lean.Grind.CommRing A] [Lean.Grind.CommRing R]

def mul (a b : M R) : M R :=
  a.map (fun row => (List.range (b.headD []).length).map (fun j =>
    (List.zipWith (· * ·) row (b.map (fun r => r.getD j 0))).foldl (· + ·) 0))

/-- the matrix of a two-qubit gate applied to the qubits in the other order -/
def revq (m : M R) : M R :=
  [0, 2, 1, 3].map (fun i => [0, 2, 1, 3].map (fun j => (m.getD i []).getD j 0))

def dagger2 (conj : R → R) (m : M R) : M R :=
  [[conj ((m.getD 0 []).getD 0 0), conj ((m.getD 1 []).getD 0 0)], [conj ((m.getD 0 []).getD 1 0), conj ((m.getD 1 []).getD 1 0)]]

def krausSum (conj : R → R) (ks : List (M R)) : M R :=
  ks.foldl (fun acc k => madd acc (mul (dagger2 conj k) k)) [[0, 0], [0, 0]]

def dot (r c : List R) : R := (List.zipWith (· * ·) r c).foldl (· + ·) 0

def cols (b : M R) : M R := (List.range (b.headD []).length).map (fun j => b.map (fun r => r.getD j 0))

theorem mul_eq_dot (a b : M R) : mul a b = a.map (fun row => (cols b).map (dot row)) := by
  simp only [mul, cols, dot, List.map_map, Function.comp_def]

/-! The zero and one laws with `0`, `1` spelt as the statements of this development spell them, so that `simp` matches
them syntactically (the library's versions go through the `Semiring` instance and cost an unfolding at every use). -/

theorem zero_add_r (a : R) : 0 + a = a := by grind
theorem add_zero_r (a : R) : a + 0 = a := by grind
theorem zero_mul_r (a : R) : 0 * a = 0 := by grind
theorem mul_zero_r (a : R) : a * 0 = 0 := by grind
theorem one_mul_r (a : R) : 1 * a = a := by grind
theorem mul_one_r (a : R) : a * 1 = a := by grind
theorem neg_zero_r : -(0 : R) = 0 := by grind

theorem foldl_add (l : List R) (a : R) : l.foldl (· + ·) a = a + l.foldl (· + ·) 0 := by
  induction l generalizing a with
  | nil => simp only [List.foldl_nil]; grind
  | cons x l ih => rw [List.foldl_cons, List.foldl_cons, ih, ih (0 + x)]; grind

theorem dot_nil (c : List R) : dot [] c = 0 := rfl

theorem dot_cons (x y : R) (xs ys : List R) : dot (x :: xs) (y :: ys) = x * y + dot xs ys := by
  simp only [dot, List.zipWith_cons_cons, List.foldl_cons]; rw [foldl_add]; grind

theorem dot_zero_cons (y : R) (xs ys : List R) : dot (0 :: xs) (y :: ys) = dot xs ys := by
  rw [dot_cons]; grind

theorem dot_one_cons (y : R) (xs ys : List R) : dot (1 :: xs) (y :: ys) = y + dot xs ys := by
  rw [dot_cons]; grind

theorem eye2 : (eye 2 : M R) = [[1, 0], [0, 1]] := rfl
theorem eye4 : (eye 4 : M R) = [[1, 0, 0, 0], [0, 1, 0, 0], [0, 0, 1, 0], [0, 0, 0, 1]] := rfl

theorem diag2 (a b : R) : diag [a, b] = [[a, 0], [0, b]] := rfl
theorem diag4 (a b c d : R) : diag [a, b, c, d] = [[a, 0, 0, 0], [0, b, 0, 0], [0, 0, c, 0], [0, 0, 0, d]] := rfl

theorem diag8 (a b c d e f g k : R) :
    diag [a, b, c, d, e, f, g, k]
      = [[a, 0, 0, 0, 0, 0, 0, 0], [0, b, 0, 0, 0, 0, 0, 0], [0, 0, c, 0, 0, 0, 0, 0], [0, 0, 0, d, 0, 0, 0, 0],
         [0, 0, 0, 0, e, 0, 0, 0], [0, 0, 0, 0, 0, f, 0, 0], [0, 0, 0, 0, 0, 0, g, 0], [0, 0, 0, 0, 0, 0, 0, k]] := by rfl

theorem bbr4 (a b c d : R) :
    blockBottomRight 4 [[a, b], [c, d]] = [[1, 0, 0, 0], [0, 1, 0, 0], [0, 0, a, b], [0, 0, c, d]] := rfl

theorem bbr8 (a b c d : R) :
    blockBottomRight 8 [[a, b], [c, d]]
      = [[1, 0, 0, 0, 0, 0, 0, 0], [0, 1, 0, 0, 0, 0, 0, 0], [0, 0, 1, 0, 0, 0, 0, 0], [0, 0, 0, 1, 0, 0, 0, 0],
         [0, 0, 0, 0, 1, 0, 0, 0], [0, 0, 0, 0, 0, 1, 0, 0], [0, 0, 0, 0, 0, 0, a, b], [0, 0, 0, 0, 0, 0, c, d]] := by rfl

theorem bbr84 (a0 a1 a2 a3 b0 b1 b2 b3 c0 c1 c2 c3 d0 d1 d2 d3 : R) :
    blockBottomRight 8 [[a0, a1, a2, a3], [b0, b1, b2, b3], [c0, c1, c2, c3], [d0, d1, d2, d3]]
      = [[1, 0, 0, 0, 0, 0, 0, 0], [0, 1, 0, 0, 0, 0, 0, 0], [0, 0, 1, 0, 0, 0, 0, 0], [0, 0, 0, 1, 0, 0, 0, 0],
         [0, 0, 0, 0, a0, a1, a2, a3], [0, 0, 0, 0, b0, b1, b2, b3], [0, 0, 0, 0, c0, c1, c2, c3], [0, 0, 0, 0, d0, d1, d2, d3]] := by rfl

theorem revq_lit (a0 a1 a2 a3 b0 b1 b2 b3 c0 c1 c2 c3 d0 d1 d2 d3 : R) :
    revq [[a0, a1, a2, a3], [b0, b1, b2, b3], [c0, c1, c2, c3], [d0, d1, d2, d3]]
      = [[a0, a2, a1, a3], [c0, c2, c1, c3], [b0, b2, b1, b3], [d0, d2, d1, d3]] := rfl

theorem dagger2_lit (conj : R → R) (a b c d : R) : dagger2 conj [[a, b], [c, d]] = [[conj a, conj c], [conj b, conj d]] := rfl

/-- evaluate `smul`, `madd`, `kron`, `mul`, `revq`, `dagger2`, `krausSum`, `diag`, `eye`, `blockBottomRight` on literal matrices,
innermost first, dropping zeros and ones on the way (`↓`: a zero or one in a row is skipped before the general `dot_cons` applies) -/
macro "mat_eval" : tactic => `(tactic|
  simp only [mul_eq_dot, cols, ↓dot_zero_cons, ↓dot_one_cons, dot_cons, dot_nil, revq_lit, dagger2_lit, krausSum, kron, smul, madd,
    diag2, diag4, diag8, bbr4, bbr8, bbr84, eye2, eye4, List.map_cons, List.map_nil, List.headD_cons, List.length_cons, List.length_nil,
    List.range, List.range.loop, List.getD_cons_zero, List.getD_cons_succ, Nat.reduceAdd, List.foldl_cons, List.foldl_nil,
    List.zipWith_cons_cons, List.zipWith_nil_left, List.flatMap_cons, List.flatMap_nil, List.cons_append, List.nil_append, List.append_nil,
    zero_add_r, add_zero_r, zero_mul_r, mul_zero_r, one_mul_r, mul_one_r])

/-- turn an equation of literal matrices (lists of rows, arrays, `some` of either) into the conjunction of its entries and
prove that with the ring solver.  One call for all the entries: a call per entry costs up to twice as much to elaborate and
three times as much to check (the entries share subterms, and much of a call is spent before the first polynomial is met). -/
macro "mat_eq" : tactic => `(tactic|
  (simp only [Option.some.injEq, Array.mk.injEq, List.cons.injEq, and_true, true_and]
   grind))

section forms
variable {E : Env A R} (h : Lawful E)
include h

theorem xblock_eq (t : A) :
    xblock E t = [[(1 + E.ph t) * E.half, (1 - E.ph t) * E.half], [(1 - E.ph t) * E.half, (1 + E.ph t) * E.half]] := by
  simp only [xblock, ph_cos h, ph_sin h]
  mat_eq

theorem xpow_eq (t s : A) :
    xpow E t s = smul (E.ph (t * s)) [[(1 + E.ph t) * E.half, (1 - E.ph t) * E.half], [(1 - E.ph t) * E.half, (1 + E.ph t) * E.half]] := by
  rw [← xblock_eq h]
  simp only [xpow, xblock, ph_shift h, smul, List.map_cons, List.map_nil]
  mat_eq

theorem ypow_eq (t s : A) :
    ypow E t s = smul (E.ph (t * s))
      [[(1 + E.ph t) * E.half, -(E.I * (1 - E.ph t) * E.half)], [E.I * (1 - E.ph t) * E.half, (1 + E.ph t) * E.half]] := by
  have hc := ph_cos h t; have hs := ph_sin h t; have hI := h.I_sq
  simp only [ypow, ph_shift h, smul, List.map_cons, List.map_nil]
  mat_eq

theorem hpow_eq (t s : A) :
    hpow E t s = smul (E.ph (t * s))
      [[(1 + E.ph t) * E.half + (1 - E.ph t) * E.half * E.isq2, (1 - E.ph t) * E.half * E.isq2],
       [(1 - E.ph t) * E.half * E.isq2, (1 + E.ph t) * E.half - (1 - E.ph t) * E.half * E.isq2]] := by
  have hc := ph_cos h t; have hs := ph_sin h t
  simp only [hpow, ph_shift h, smul, List.map_cons, List.map_nil]
  mat_eq

theorem xxpow_eq (t s : A) :
    xxpow E t s = smul (E.ph (t * s))
      [[(1 + E.ph t) * E.half, 0, 0, (1 - E.ph t) * E.half], [0, (1 + E.ph t) * E.half, (1 - E.ph t) * E.half, 0],
       [0, (1 - E.ph t) * E.half, (1 + E.ph t) * E.half, 0], [(1 - E.ph t) * E.half, 0, 0, (1 + E.ph t) * E.half]] := by
  simp only [xxpow, ph_cos h, ph_sin h, smul, List.map_cons, List.map_nil]
  mat_eq

theorem yypow_eq (t s : A) :
    yypow E t s = smul (E.ph (t * s))
      [[(1 + E.ph t) * E.half, 0, 0, (E.ph t - 1) * E.half], [0, (1 + E.ph t) * E.half, (1 - E.ph t) * E.half, 0],
       [0, (1 - E.ph t) * E.half, (1 + E.ph t) * E.half, 0], [(E.ph t - 1) * E.half, 0, 0, (1 + E.ph t) * E.half]] := by
  simp only [yypow, ph_cos h, ph_sin h, smul, List.map_cons, List.map_nil]
  mat_eq

theorem phasedx_eq (t p s : A) :
    phasedx E t p s = smul (E.ph (t * s))
      [[(1 + E.ph t) * E.half, E.ph (-p) * (1 - E.ph t) * E.half], [E.ph p * (1 - E.ph t) * E.half, (1 + E.ph t) * E.half]] := by
  have hs := ph_sin h t
  simp only [phasedx, ph_cos h, h.ph_add, ph_sub h, smul, List.map_cons, List.map_nil]
  mat_eq

theorem phasedxz_eq (x z a : A) :
    phasedxz E x z a =
      [[(1 + E.ph x) * E.half, E.ph (-a) * (1 - E.ph x) * E.half],
       [E.ph z * E.ph a * (1 - E.ph x) * E.half, E.ph z * (1 + E.ph x) * E.half]] := by
  have hc := ph_cos h x; have hs := ph_sin h x
  simp only [phasedxz, h.ph_add, ph_sub h]
  mat_eq

end forms

/-- `Z**φ · M · Z**ψ`: the second row of `M` is multiplied by `e^{iπφ}`, the second column by `e^{iπψ}` -/
theorem zpow_mul_zpow (E : Env A R) (h : Lawful E) (φ ψ : A) (a b c d : R) :
    mul (zpow E φ 0) (mul [[a, b], [c, d]] (zpow E ψ 0)) = [[a, b * E.ph ψ], [E.ph φ * c, E.ph φ * (d * E.ph ψ)]] := by
  simp only [zpow, ph_mul_zero h]
  mat_eval

open CirqVerif.Qasm (LawfulQ8 ph_neg_quarter) in
/-- `H**t = Y**-¼ X**t Y**¼` with any global shift `a` on the two `Y` powers (the two phases cancel) and `s` on the `X` power -/
theorem decompose_hpow_shift (E : Env A R) (h : LawfulQ8 E) (t s a : A) :
    mul (ypow E (-(E.halfA * E.halfA)) a) (mul (xpow E t s) (ypow E (E.halfA * E.halfA) a)) = hpow E t s := by
  have hI := h.I_sq; have hh := h.half_def; have hq := h.isq2_sq
  have ha : E.ph (-(E.halfA * E.halfA) * a) * E.ph (E.halfA * E.halfA * a) = 1 := ph_mul_eq_one h.toLawful (by grind)
  simp only [hpow_eq h.toLawful, xpow_eq h.toLawful, ypow_eq h.toLawful, h.ph_quarter, ph_neg_quarter h]
  mat_eval
  mat_eq

end CirqVerif.GateDocs
