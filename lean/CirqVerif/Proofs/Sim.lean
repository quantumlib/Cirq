import CirqVerif.Model.Sim
import CirqVerif.Proofs.Tensor
/-! The array interpreter computes the reference semantics (refinement, every shape and circuit). -/
namespace CirqVerif

theorem shapeSize_cons (d : Nat) (ds : List Nat) : shapeSize (d :: ds) = d * shapeSize ds := rfl

theorem flatIndex_lt : ∀ {shape : List Nat} {idx : Idx}, ValidIdx shape idx → flatIndex shape idx < shapeSize shape
  | [], [], _ => Nat.one_pos
  | d :: ds, x :: xs, h =>
    calc x * shapeSize ds + flatIndex ds xs < x * shapeSize ds + shapeSize ds :=
          Nat.add_lt_add_left (flatIndex_lt h.2) _
      _ = (x + 1) * shapeSize ds := (Nat.succ_mul _ _).symm
      _ ≤ d * shapeSize ds := Nat.mul_le_mul_right _ h.1
  | [], _ :: _, h => h.elim
  | _ :: _, [], h => h.elim

theorem unflatten_flatIndex : ∀ {shape : List Nat} {idx : Idx}, ValidIdx shape idx →
    unflatten shape (flatIndex shape idx) = idx
  | [], [], _ => rfl
  | _ :: ds, x :: xs, h => by
    have hlt := flatIndex_lt h.2
    show (x * shapeSize ds + flatIndex ds xs) / shapeSize ds ::
      unflatten ds ((x * shapeSize ds + flatIndex ds xs) % shapeSize ds) = x :: xs
    rw [Nat.mul_comm x, Nat.mul_add_div (Nat.zero_lt_of_lt hlt), Nat.mul_add_mod, Nat.div_eq_of_lt hlt,
      Nat.mod_eq_of_lt hlt, unflatten_flatIndex h.2, Nat.add_zero]
  | [], _ :: _, h => h.elim
  | _ :: _, [], h => h.elim

theorem stateOfArray_materialize {R : Type} [OfNat R 0] (shape : List Nat) (ψ : State R) (idx : Idx) (h : ValidIdx shape idx) :
    stateOfArray shape (materialize shape ψ) idx = ψ idx := by
  unfold stateOfArray materialize
  have hlt := flatIndex_lt h
  simp [Array.getD, hlt, unflatten_flatIndex h]

section
variable {R : Type} [Add R] [Mul R] [OfNat R 0]

theorem applyOp_congr_valid (shape : List Nat) (U : Mat R) (axes : List Nat) (ψ φ : State R)
    (hψ : ∀ i, ValidIdx shape i → ψ i = φ i) (idx : Idx) (h : ValidIdx shape idx) :
    applyOp U (axes.map (fun a => shape.getD a 1)) axes ψ idx
      = applyOp U (axes.map (fun a => shape.getD a 1)) axes φ idx := by
  unfold applyOp
  apply sumL_congr
  intro b hb
  rw [hψ _ (h.setAxes axes b (mem_allIdx.mp hb))]

/-- each step re-materialises `applyOp` of a state that agrees with the reference one on the valid indices,
which is all `applyOp` reads -/
theorem runArr_refines (shape : List Nat) (ops : List (ArrOp R)) (arr : Array R) (ψ : State R)
    (hψ : ∀ i, ValidIdx shape i → stateOfArray shape arr i = ψ i) (idx : Idx) (h : ValidIdx shape idx) :
    stateOfArray shape (runArr shape arr ops) idx
      = applyOps (ops.map (fun op =>
          (matOfArray (op.axes.map (fun a => shape.getD a 1)) op.matrix,
           op.axes.map (fun a => shape.getD a 1), op.axes))) ψ idx := by
  induction ops generalizing arr ψ with
  | nil => exact hψ idx h
  | cons op ops ih =>
    exact ih (stepArr shape arr op) _ (fun i hi =>
      (stateOfArray_materialize shape _ i hi).trans (applyOp_congr_valid shape _ op.axes _ _ hψ i hi))

end
end CirqVerif
