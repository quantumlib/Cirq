/-! Facts about core list functions that several proof modules need: folds of `min` / `max`, `flatMap` up to permutation,
successful `foldlM` / `mapM` in `Except`, positions (`findIdx`, `idxOf?`). -/
namespace CirqVerif

theorem foldl_min_spec (l : List Nat) (b : Nat) :
    (l.foldl min b = b ∨ l.foldl min b ∈ l) ∧ l.foldl min b ≤ b ∧ ∀ x ∈ l, l.foldl min b ≤ x := by
  -- in core, `(b :: l).min?` is this fold
  obtain ⟨hm, hle⟩ := List.min?_eq_some_iff.mp (List.min?_cons' (x := b) (xs := l))
  exact ⟨List.mem_cons.mp hm, hle b List.mem_cons_self, fun x hx => hle x (List.mem_cons_of_mem _ hx)⟩

theorem foldl_max_ge {α : Type} (f : α → Nat) (ws : List α) (b : Nat) :
    b ≤ ws.foldl (fun acc w => max acc (f w)) b ∧ ∀ w ∈ ws, f w ≤ ws.foldl (fun acc w => max acc (f w)) b := by
  have h := (List.max?_eq_some_iff.mp (List.max?_cons' (x := b) (xs := ws.map f))).2
  rw [List.foldl_map] at h
  exact ⟨h b List.mem_cons_self, fun w hw => h (f w) (List.mem_cons_of_mem _ (List.mem_map_of_mem hw))⟩

theorem flatMap_append_perm {α β : Type} (l : List α) (f g : α → List β) :
    (l.flatMap (fun x => f x ++ g x)).Perm (l.flatMap f ++ l.flatMap g) := by
  induction l with
  | nil => simp
  | cons x xs ih =>
    simp only [List.flatMap_cons, List.append_assoc]
    exact (List.Perm.append_left _ ((List.Perm.append_left _ ih).trans (List.perm_append_comm_assoc ..)))

theorem flatMap_swap_perm {α β γ : Type} (l : List α) (m : List β) (f : α → β → List γ) :
    (l.flatMap (fun x => m.flatMap (fun y => f x y))).Perm (m.flatMap (fun y => l.flatMap (fun x => f x y))) := by
  induction m with
  | nil => simp
  | cons y ys ih =>
    simp only [List.flatMap_cons]
    exact (flatMap_append_perm l (fun x => f x y) (fun x => ys.flatMap (fun y => f x y))).trans (List.Perm.append_left _ ih)

theorem bind_ok {ε α β : Type} {x : Except ε α} {f : α → Except ε β} {b : β} (h : x >>= f = .ok b) :
    ∃ a, x = .ok a ∧ f a = .ok b := by
  cases x with
  | error e => cases h
  | ok a => exact ⟨a, rfl, h⟩

theorem map_ok {ε α β : Type} {x : Except ε α} {f : α → β} {b : β} (h : x.map f = .ok b) :
    ∃ a, x = .ok a ∧ f a = b := by
  cases x with
  | error e => cases h
  | ok a => exact ⟨a, rfl, by cases h; rfl⟩

theorem foldlM_inv {ε α β : Type} {f : β → α → Except ε β} (P : β → Prop) :
    ∀ {xs : List α} {b b' : β}, xs.foldlM f b = .ok b' → P b →
      (∀ a ∈ xs, ∀ b b', P b → f b a = .ok b' → P b') → P b'
  | [], _, _, h, h0, _ => by cases h; exact h0
  | x :: xs, _, _, h, h0, step => by
    rw [List.foldlM_cons] at h
    obtain ⟨b1, h1, h2⟩ := bind_ok h
    exact foldlM_inv P h2 (step x (by simp) _ _ h0 h1) (fun a ha => step a (by simp [ha]))

theorem mapM_ok {ε α β : Type} {f : α → Except ε β} :
    ∀ {l : List α} {r : List β}, l.mapM f = .ok r → l.map f = r.map .ok
  | [], _, h => by cases h; rfl
  | a :: as, _, h => by
    rw [List.mapM_cons] at h
    obtain ⟨b, hb, h⟩ := bind_ok h
    obtain ⟨bs, hbs, h⟩ := bind_ok h
    cases h
    rw [List.map_cons, List.map_cons, hb, mapM_ok hbs]

theorem mapM_ok_eq_map {α β ε : Type} {f : α → Except ε β} {g : α → β} (hfg : ∀ a b, f a = .ok b → b = g a)
    {l : List α} {r : List β} (h : l.mapM f = .ok r) : r = l.map g := by
  -- compare after mapping `.ok`, which is injective: `mapM_ok` gives `r.map .ok = l.map f`
  refine ((List.map_inj_right (f := (Except.ok : β → Except ε β)) (fun _ _ => Except.ok.inj)).mp ?_).symm
  rw [← mapM_ok h, List.map_map]
  refine List.map_congr_left (fun a ha => ?_)
  obtain ⟨b, _, hb⟩ := List.mem_map.mp (mapM_ok h ▸ List.mem_map_of_mem ha)
  rw [← hb, Function.comp_apply, ← hfg a b hb.symm]

theorem mem_of_mapM_ok {ε α β : Type} {f : α → Except ε β} {l : List α} {r : List β} (h : l.mapM f = .ok r)
    {b : β} (hb : b ∈ r) : ∃ a ∈ l, f a = .ok b := by
  have : Except.ok b ∈ l.map f := mapM_ok h ▸ List.mem_map_of_mem hb
  exact List.mem_map.mp this

/-- scanning the first `n` elements of `l` backwards for one with `p` passes over `t` elements and stops at `n - t` -/
theorem findIdx_reverse_take {α : Type} {p : α → Bool} {l : List α} {n t : Nat} (hn : n ≤ l.length)
    (ht : (l.take n).reverse.findIdx p = t) :
    (∀ i x, n - t ≤ i → i < n → l[i]? = some x → p x = false) ∧ (0 < n - t → ∀ x, l[n - t - 1]? = some x → p x = true) := by
  subst ht
  -- position `k` of the reversed prefix is position `n - 1 - k` of `l`
  have hget : ∀ k j, k + j + 1 = n → (l.take n).reverse[k]? = l[j]? := fun k j h => by
    rw [List.getElem?_reverse' (by rw [List.length_take_of_le hn, h]), List.getElem?_take_of_lt (by omega)]
  generalize (l.take n).reverse = xs at hget ⊢
  constructor
  · intro i x hi hin hx
    rw [← hget (n - 1 - i) i (by omega)] at hx
    obtain ⟨_, rfl⟩ := List.getElem?_eq_some_iff.mp hx
    exact List.not_of_lt_findIdx (by omega)
  · intro hr x hx
    rw [← hget (xs.findIdx p) _ (by omega)] at hx
    obtain ⟨_, rfl⟩ := List.getElem?_eq_some_iff.mp hx
    exact List.findIdx_getElem

theorem flatten_set_append {α : Type} {l : List (List α)} {p : Nat} {m : List α} (o : α) (h : l[p]? = some m) :
    (l.set p (m ++ [o])).flatten.Perm (l.flatten ++ [o]) := by
  obtain ⟨hp, rfl⟩ := List.getElem?_eq_some_iff.mp h
  -- `l = l.take p ++ l[p] :: l.drop (p + 1)`, and `set` replaces the middle
  rw [List.set_eq_take_append_cons_drop, if_pos hp]
  conv => rhs; rw [← List.take_append_drop p l, List.drop_eq_getElem_cons hp]
  simp only [List.flatten_append, List.flatten_cons, List.append_assoc]
  exact .append_left _ (.append_left _ List.perm_append_comm)

theorem idxOf?_some_get {α : Type} [BEq α] [LawfulBEq α] {l : List α} {x : α} {k : Nat} (h : l.idxOf? x = some k) :
    l[k]? = some x := by
  obtain ⟨hk, hx, _⟩ := List.idxOf?_eq_some_iff.mp h
  rw [List.getElem?_eq_getElem hk, hx]

theorem getElem?_append_of_eq_some {α : Type} {l : List α} {k : Nat} {x : α} (h : l[k]? = some x) (ext : List α) :
    (l ++ ext)[k]? = some x := by
  rw [List.getElem?_append_left (List.getElem?_eq_some_iff.mp h).1, h]

end CirqVerif
