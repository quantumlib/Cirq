import CirqVerif.Base.Digits
/-!
The two loops of `digits.py` are the two folds of one step over the (digit, base) pairs: `horner` from the left
(most significant digit first, as `big_endian_digits_to_int` accumulates) and `leValue` from the right (least
significant first; the division loop of `big_endian_int_to_digits` undoes it step by step, and what it has not yet
divided is the fold's start value).  `horner_eq_leValue` is `List.foldr_reverse`.  Each model function is
characterised once against them (`digitsToInt_ofNat`, `intToDigitsLoop_leValue` / `intToDigitsLoop_ok`,
`intToDigits_ok_iff`); the round trips of `Props/C18` are read off these.
-/
namespace CirqVerif.Digits

def horner (ds bs : List Nat) (acc : Nat) : Nat := (ds.zip bs).foldl (fun r p => p.1 + p.2 * r) acc

def leValue (ds bs : List Nat) (r : Nat) : Nat := (ds.zip bs).foldr (fun p r => p.1 + p.2 * r) r

theorem horner_cons (d b : Nat) (ds bs : List Nat) (acc : Nat) :
    horner (d :: ds) (b :: bs) acc = horner ds bs (d + b * acc) := rfl

theorem leValue_cons (d b : Nat) (ds bs : List Nat) (r : Nat) :
    leValue (d :: ds) (b :: bs) r = d + b * leValue ds bs r := rfl

def prod (bs : List Nat) : Nat := bs.foldr (· * ·) 1

@[simp] theorem prod_nil : prod [] = 1 := rfl
@[simp] theorem prod_cons (b : Nat) (bs : List Nat) : prod (b :: bs) = b * prod bs := rfl
theorem prod_append (as bs : List Nat) : prod (as ++ bs) = prod as * prod bs := List.prod_append
theorem prod_reverse (bs : List Nat) : prod bs.reverse = prod bs := List.prod_reverse _
theorem prod_replicate (n b : Nat) : prod (List.replicate n b) = b ^ n := List.prod_replicate_nat
theorem prod_pos (bs : List Nat) (h : ∀ b ∈ bs, 0 < b) : 0 < prod bs := List.prod_pos_iff_forall_pos_nat.mpr h

def InRange : List Nat → List Nat → Prop
  | [], [] => True
  | d :: ds, b :: bs => d < b ∧ InRange ds bs
  | _, _ => False

theorem InRange.length_eq : ∀ {ds bs : List Nat}, InRange ds bs → ds.length = bs.length
  | [], [], _ => rfl
  | _ :: _, _ :: _, h => congrArg (· + 1) (InRange.length_eq h.2)
  | [], _ :: _, h => h.elim
  | _ :: _, [], h => h.elim

theorem InRange.append {ds bs : List Nat} {d b : Nat} (h : InRange ds bs) (hd : d < b) :
    InRange (ds ++ [d]) (bs ++ [b]) := by
  induction ds generalizing bs with
  | nil => cases bs <;> simp_all [InRange]
  | cons x xs ih => cases bs with
    | nil => simp [InRange] at h
    | cons y ys => exact ⟨h.1, ih h.2⟩

theorem InRange.reverse {ds bs : List Nat} (h : InRange ds bs) : InRange ds.reverse bs.reverse := by
  induction ds generalizing bs with
  | nil => cases bs <;> simp_all [InRange]
  | cons x xs ih => cases bs with
    | nil => simp [InRange] at h
    | cons y ys => simp only [List.reverse_cons]; exact (ih h.2).append h.1

theorem leValue_lt : ∀ {ds bs : List Nat}, InRange ds bs → leValue ds bs 0 < prod bs
  | [], [], _ => Nat.one_pos
  | d :: ds, b :: bs, h =>
    calc d + b * leValue ds bs 0 < b + b * leValue ds bs 0 := Nat.add_lt_add_right h.1 _
      _ = b * (leValue ds bs 0 + 1) := by rw [Nat.mul_succ, Nat.add_comm]
      _ ≤ b * prod bs := Nat.mul_le_mul_left b (leValue_lt h.2)
  | [], _ :: _, h => h.elim
  | _ :: _, [], h => h.elim

theorem horner_acc (ds bs : List Nat) (acc : Nat) (hl : ds.length = bs.length) :
    horner ds bs acc = acc * prod bs + horner ds bs 0 := by
  induction ds generalizing bs acc with
  | nil => rw [List.eq_nil_of_length_eq_zero hl.symm]; simp [horner]
  | cons d ds ih =>
    obtain ⟨b, bs, rfl⟩ := List.exists_cons_of_length_eq_add_one hl.symm
    have hl' := Nat.succ.inj hl
    rw [horner_cons, horner_cons, ih bs (d + b * acc) hl', ih bs (d + b * 0) hl', prod_cons, Nat.mul_zero,
      Nat.add_zero, Nat.add_mul, Nat.mul_comm b acc, Nat.mul_assoc, Nat.add_comm (d * _), Nat.add_assoc]

theorem horner_eq_leValue {ds bs : List Nat} (hl : ds.length = bs.length) (acc : Nat) :
    horner ds bs acc = leValue ds.reverse bs.reverse acc := by
  rw [leValue, List.zip, ← List.reverse_zipWith hl, List.foldr_reverse]; rfl

theorem horner_lt {ds bs : List Nat} (h : InRange ds bs) : horner ds bs 0 < prod bs := by
  rw [horner_eq_leValue h.length_eq, ← prod_reverse]; exact leValue_lt h.reverse

theorem digitsToIntLoop_ofNat : ∀ {ds bs : List Nat}, InRange ds bs → ∀ acc : Nat,
    digitsToIntLoop (ds.map Int.ofNat) (bs.map Int.ofNat) acc = .ok (horner ds bs acc : Nat)
  | [], [], _, _ => rfl
  | d :: ds, b :: bs, h, acc => by
    have hd : (0 : Int) ≤ Int.ofNat d ∧ Int.ofNat d < Int.ofNat b := ⟨Int.natCast_nonneg d, Int.ofNat_lt.mpr h.1⟩
    rw [List.map_cons, List.map_cons, digitsToIntLoop, if_pos hd, horner_cons, Nat.add_comm, Nat.mul_comm,
      ← digitsToIntLoop_ofNat h.2]; rfl
  | [], _ :: _, h, _ => h.elim
  | _ :: _, [], h, _ => h.elim

theorem digitsToInt_ofNat {ds bs : List Nat} (h : InRange ds bs) :
    digitsToInt (ds.map Int.ofNat) (bs.map Int.ofNat) = .ok (horner ds bs 0 : Nat) := by
  unfold digitsToInt
  rw [if_neg (by simp [h.length_eq])]
  exact digitsToIntLoop_ofNat h 0

theorem digitsToIntLoop_ok_range (ds bs : List Int) (acc v : Int) (h : digitsToIntLoop ds bs acc = .ok v) :
    ∀ p ∈ ds.zip bs, 0 ≤ p.1 ∧ p.1 < p.2 := by
  fun_induction digitsToIntLoop ds bs acc with
  | case1 | case2 => simp
  | case3 d ds b bs acc hd ih => exact List.forall_mem_cons.mpr ⟨hd, ih h⟩
  | case4 => cases h

/-- the division loop undoes `leValue`: low digits come off one by one, `r` is what is left -/
theorem intToDigitsLoop_leValue : ∀ {ds bs : List Nat}, InRange ds bs → ∀ r : Nat,
    intToDigitsLoop bs (leValue ds bs r) = .ok (ds, r)
  | [], [], _, r => rfl
  | d :: ds, b :: bs, h, r => by
    have hb : 0 < b := Nat.zero_lt_of_lt h.1
    rw [leValue_cons, intToDigitsLoop, if_neg (Nat.ne_of_gt hb), Nat.add_mul_div_left _ _ hb, Nat.div_eq_of_lt h.1,
      Nat.zero_add, intToDigitsLoop_leValue h.2, Nat.add_mul_mod_self_left, Nat.mod_eq_of_lt h.1]
  | [], _ :: _, h, _ => h.elim
  | _ :: _, [], h, _ => h.elim

/-- the converse; the bases need no hypothesis, a zero base makes the loop fail -/
theorem intToDigitsLoop_ok {bs : List Nat} {v : Nat} {ds : List Nat} {r : Nat}
    (h : intToDigitsLoop bs v = .ok (ds, r)) : InRange ds bs ∧ leValue ds bs r = v := by
  fun_induction intToDigitsLoop bs v generalizing ds r with
  | case1 v => cases h; exact ⟨trivial, rfl⟩
  | case2 | case4 => cases h
  | case3 b bs v hb ds' r' h1 ih =>
    cases h
    obtain ⟨hin, hval⟩ := ih h1
    exact ⟨⟨Nat.mod_lt _ (Nat.pos_of_ne_zero hb), hin⟩, by rw [leValue_cons, hval]; exact Nat.mod_add_div v b⟩

theorem intToDigitsLoop_total {bs : List Nat} (hb : ∀ b ∈ bs, 0 < b) (v : Nat) :
    ∃ ds, intToDigitsLoop bs v = .ok (ds, v / prod bs) := by
  induction bs generalizing v with
  | nil => exact ⟨[], by rw [prod_nil, Nat.div_one]; rfl⟩
  | cons b bs ih =>
    obtain ⟨ds, hp⟩ := ih (fun x hx => hb x (List.mem_cons_of_mem _ hx)) (v / b)
    exact ⟨_, by rw [intToDigitsLoop, if_neg (Nat.ne_of_gt (hb b List.mem_cons_self)), hp, Nat.div_div_eq_div_mul,
      prod_cons]⟩

/-- **`big_endian_int_to_digits` returns `ds` exactly when `ds` is the in-range representation of `v`** -/
theorem intToDigits_ok_iff {bs : List Nat} {v : Nat} {ds : List Nat} :
    intToDigits bs v = .ok ds ↔ InRange ds bs ∧ horner ds bs 0 = v := by
  unfold intToDigits
  constructor
  · intro h
    split at h
    · next ds' r h1 =>
      obtain ⟨hin, hv⟩ := intToDigitsLoop_ok h1
      split at h
      · cases h
      · next hr =>
        obtain rfl : r = 0 := Decidable.not_not.mp hr
        cases h
        have hin' : InRange ds'.reverse bs := by simpa using hin.reverse
        exact ⟨hin', by rw [horner_eq_leValue hin'.length_eq, List.reverse_reverse]; exact hv⟩
    · cases h
  · rintro ⟨hin, rfl⟩
    rw [horner_eq_leValue hin.length_eq, intToDigitsLoop_leValue hin.reverse 0]
    simp

end CirqVerif.Digits
