import CirqVerif.Proofs.Dyadic
import CirqVerif.Spec.Qasm
import CirqVerif.Proofs.Tensor
/-! The array simulation and the QASM library commute with `D8.toQ8`: exact columns are computed in `D8`. -/
namespace CirqVerif
open D8

theorem toQ8_getD (arr : Array D8) (i : Nat) : (arr.map toQ8).getD i 0 = toQ8 (arr.getD i 0) := by
  simp only [Array.getD_eq_getD_getElem?, Array.getElem?_map]
  cases arr[i]? <;> simp [toQ8_zero]

theorem toQ8_sumL {α : Type} (l : List α) (f : α → D8) : sumL l (fun a => toQ8 (f a)) = toQ8 (sumL l f) :=
  sumL_hom toQ8 toQ8_zero toQ8_add l f

theorem toQ8_stepArr (shape : List Nat) (arr m : Array D8) (axes : List Nat) :
    stepArr shape (arr.map toQ8) ⟨m.map toQ8, axes⟩ = (stepArr shape arr ⟨m, axes⟩).map toQ8 := by
  simp only [stepArr, materialize, Array.map_ofFn, applyOp, matOfArray, stateOfArray, toQ8_getD, ← toQ8_mul,
    toQ8_sumL]
  rfl

def ArrOp.toQ (op : ArrOp D8) : ArrOp Q8 := ⟨op.matrix.map toQ8, op.axes⟩

theorem toQ8_runArr (shape : List Nat) (arr : Array D8) (ops : List (ArrOp D8)) :
    runArr shape (arr.map toQ8) (ops.map ArrOp.toQ) = (runArr shape arr ops).map toQ8 := by
  rw [runArr, List.foldl_map]
  exact List.foldl_hom (Array.map toQ8) fun x op => toQ8_stepArr shape x op.matrix op.axes

namespace Qasm

/-- the powers of `ζ` have integer coefficients -/
theorem toQ8_zetaPow (k : Nat) : Q8.zetaPow k = toQ8 (ofQ8 0 (Q8.zetaPow k)) := by
  simp only [Q8.zetaPow]
  split <;> decide +kernel

def octCisD (x : Oct) : D8 := ofQ8 0 (octCis x)

/-- `octTrig` in `D8`: `⟨1, 0, 0, 0, 1⟩` is ½ and `⟨0, 0, 1, 0, 0⟩` is `ζ² = i` -/
def octTrigD : Trig Oct D8 where
  cosHalf θ := let j : Oct := ⟨θ.k / 2⟩; ⟨1, 0, 0, 0, 1⟩ * (octCisD j + octCisD ⟨-j.k⟩)
  sinHalf θ := let j : Oct := ⟨θ.k / 2⟩; ⟨1, 0, 0, 0, 1⟩ * (-⟨0, 0, 1, 0, 0⟩) * (octCisD j + -(octCisD ⟨-j.k⟩))
  cis := octCisD

theorem toQ8_primArrOp (p : Prim Oct) : primArrOp octTrig p = (primArrOp octTrigD p).toQ := by
  have hh : Q8.half = toQ8 ⟨1, 0, 0, 0, 1⟩ := by decide +kernel
  have hi : Q8.I = toQ8 ⟨0, 0, 1, 0, 0⟩ := by decide +kernel
  cases p with
  | u θ φ lam q =>
    simp [primArrOp, ArrOp.toQ, uMatrix, octTrig, octTrigD, octCis, octCisD, ← toQ8_zetaPow, hh, hi, toQ8_mul, toQ8_add,
      toQ8_neg]
  | cx c t => simp [primArrOp, ArrOp.toQ, cxMatrix, toQ8_zero, toQ8_one]

theorem toQ8_gateListColumns (nq : Nat) (gates : List (String × List Oct × List Nat)) :
    gateListColumns octTrig nq gates = (gateListColumns octTrigD nq gates).map (·.map (·.map toQ8)) := by
  simp only [gateListColumns, Option.map_map]
  congr 1; funext ps
  simp only [Function.comp_def, List.map_map]
  refine List.map_congr_left fun k _ => ?_
  have h0 : (Array.replicate (2 ^ nq) (0 : Q8)).set! k 1 = ((Array.replicate (2 ^ nq) (0 : D8)).set! k 1).map toQ8 := by
    simp [Array.set!, toQ8_zero, toQ8_one]
  have hp : ps.map (primArrOp octTrig) = (ps.map (primArrOp octTrigD)).map ArrOp.toQ := by
    simp [toQ8_primArrOp]
  rw [h0, hp, toQ8_runArr]

end Qasm
end CirqVerif
