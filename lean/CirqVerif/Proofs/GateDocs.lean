import CirqVerif.Spec.GateDocs
import CirqVerif.Spec.Qasm
/-! The laws assumed of the elementary functions of the gate documentation (`Lawful`, `LawfulQ`, `LawfulQ8`), what the rules
derive from them, and the eigen-component tables `Σₖ e^{iπ t(θₖ+s)} Pₖ` the documented closed forms are compared with (Props/C03). -/
namespace CirqVerif.GateDocs

/-- the laws of the elementary functions the documentation uses (true in ℂ with `ph x = e^{iπx}`: NonVacuity/ComplexModel.lean;
hypotheses of the theorems, never assumed for the float execution) -/
structure Lawful {A R : Type} [Lean.Grind.CommRing A] [Lean.Grind.CommRing R] (E : Env A R) : Prop where
  ph_add : ∀ x y, E.ph (x + y) = E.ph x * E.ph y
  ph_zero : E.ph 0 = 1
  cos_def : ∀ x, E.cosπ x = (E.ph x + E.ph (-x)) * E.half
  sin_def : ∀ x, E.sinπ x = (E.ph (-x) - E.ph x) * E.half * E.I
  I_sq : E.I * E.I = -1
  half_def : E.half + E.half = 1
  isq2_sq : E.isq2 * E.isq2 = E.half
  halfA_def : E.halfA + E.halfA = 1

/-! The eigenvalue exponents `0` and `1` are arguments, so that one table serves the symbolic theorems (any ring `A`) and the comparison
with the extracted tables at `envQ8` by evaluation, with no structure assumed on `A` here. -/
section comps
variable {A R : Type} [Add R] [Mul R] [Neg R] [Sub R] [OfNat R 0] [OfNat R 1]

def xpowComps (E : Env A R) (zeroA oneA : A) : List (A × M R) :=
  [(zeroA, [[E.half, E.half], [E.half, E.half]]), (oneA, [[E.half, -E.half], [-E.half, E.half]])]

def ypowComps (E : Env A R) (zeroA oneA : A) : List (A × M R) :=
  [(zeroA, [[E.half, -(E.I * E.half)], [E.I * E.half, E.half]]),
   (oneA, [[E.half, E.I * E.half], [-(E.I * E.half), E.half]])]

def zpowComps (zeroA oneA : A) : List (A × M R) :=
  [(zeroA, [[1, 0], [0, 0]]), (oneA, [[0, 0], [0, 1]])]

def hpowComps (E : Env A R) (zeroA oneA : A) : List (A × M R) :=
  [(zeroA, [[E.half + E.isq2 * E.half, E.isq2 * E.half], [E.isq2 * E.half, E.half - E.isq2 * E.half]]),
   (oneA, [[E.half - E.isq2 * E.half, -(E.isq2 * E.half)], [-(E.isq2 * E.half), E.half + E.isq2 * E.half]])]

def czpowComps (zeroA oneA : A) : List (A × M R) :=
  [(zeroA, [[1, 0, 0, 0], [0, 1, 0, 0], [0, 0, 1, 0], [0, 0, 0, 0]]),
   (oneA, [[0, 0, 0, 0], [0, 0, 0, 0], [0, 0, 0, 0], [0, 0, 0, 1]])]

def zzpowComps (zeroA oneA : A) : List (A × M R) :=
  [(zeroA, [[1, 0, 0, 0], [0, 0, 0, 0], [0, 0, 0, 0], [0, 0, 0, 1]]),
   (oneA, [[0, 0, 0, 0], [0, 1, 0, 0], [0, 0, 1, 0], [0, 0, 0, 0]])]

def swappowComps (E : Env A R) (zeroA oneA : A) : List (A × M R) :=
  [(zeroA, [[1, 0, 0, 0], [0, E.half, E.half, 0], [0, E.half, E.half, 0], [0, 0, 0, 1]]),
   (oneA, [[0, 0, 0, 0], [0, E.half, -E.half, 0], [0, -E.half, E.half, 0], [0, 0, 0, 0]])]

def xxpowComps (E : Env A R) (zeroA oneA : A) : List (A × M R) :=
  [(zeroA, [[E.half, 0, 0, E.half], [0, E.half, E.half, 0], [0, E.half, E.half, 0], [E.half, 0, 0, E.half]]),
   (oneA, [[E.half, 0, 0, -E.half], [0, E.half, -E.half, 0], [0, -E.half, E.half, 0], [-E.half, 0, 0, E.half]])]

def yypowComps (E : Env A R) (zeroA oneA : A) : List (A × M R) :=
  [(zeroA, [[E.half, 0, 0, -E.half], [0, E.half, E.half, 0], [0, E.half, E.half, 0], [-E.half, 0, 0, E.half]]),
   (oneA, [[E.half, 0, 0, E.half], [0, E.half, -E.half, 0], [0, -E.half, E.half, 0], [E.half, 0, 0, E.half]])]

end comps

section
variable {A R : Type} [Lean.Grind.CommRing A] [Lean.Grind.CommRing R]

def madd (a b : M R) : M R := List.zipWith (fun r s => List.zipWith (· + ·) r s) a b

/-- `Σₖ e^{iπ t(θₖ+s)} Pₖ` over a table of (half-turn angle `θₖ`, projector `Pₖ`): the sum `EigenGate._unitary_` forms -/
def eigenDoc (E : Env A R) (comps : List (A × M R)) (t s : A) : M R :=
  match comps with
  | [] => []
  | [(θ, P)] => smul (E.ph (t * (θ + s))) P
  | (θ, P) :: rest => madd (smul (E.ph (t * (θ + s))) P) (eigenDoc E rest t s)

section scalars
variable {E : Env A R} (h : Lawful E)
include h

theorem ph_mul_eq {x y z : A} (e : x + y = z) : E.ph x * E.ph y = E.ph z := by rw [← h.ph_add, e]

theorem ph_eq_one {x : A} (e : x = 0) : E.ph x = 1 := by rw [e, h.ph_zero]

theorem ph_mul_zero (t : A) : E.ph (t * 0) = 1 := ph_eq_one h (by grind)

/-- the global shift `−½` takes the phase `e^{iπt/2}` out of `X**t`, `Y**t`, `H**t` -/
theorem ph_unshift (t : A) : E.ph (t * (-E.halfA + E.halfA)) = 1 := ph_eq_one h (by grind)

theorem ph_mul_eq_one {x y : A} (e : x + y = 0) : E.ph x * E.ph y = 1 := by rw [ph_mul_eq h e, h.ph_zero]

theorem ph_neg_mul (x : A) : E.ph x * E.ph (-x) = 1 := ph_mul_eq_one h (by grind)

theorem ph_sub (x y : A) : E.ph (x - y) = E.ph x * E.ph (-y) := (ph_mul_eq h (by grind)).symm

theorem ph_sub_add (x y : A) : E.ph (x - y) * E.ph y = E.ph x := ph_mul_eq h (by grind)

theorem ph_neg_eq {x : A} {c : R} (e : E.ph x * c = 1) : E.ph (-x) = c := by
  have := ph_neg_mul h x; grind

theorem ph_half_sq (t : A) : E.ph (t * E.halfA) * E.ph (t * E.halfA) = E.ph t :=
  ph_mul_eq h (by have := h.halfA_def; grind)

theorem ph_shift (t s a : A) : E.ph (t * (s + a)) = E.ph (t * s) * E.ph (t * a) :=
  (ph_mul_eq h (by grind)).symm

/-- eigen-phase 1 under a global shift `s` -/
theorem ph_succ_shift (t s : A) : E.ph (t * (1 + s)) = E.ph (t * s) * E.ph t := (ph_mul_eq h (by grind)).symm

theorem ph_neg_half_mul_ph (t : A) : E.ph (-(t * E.halfA)) * E.ph t = E.ph (t * E.halfA) :=
  ph_mul_eq h (by have := h.halfA_def; grind)

/-- all the trigonometry the documented matrices need: `e^{iθ/2} cos(θ/2) = (1 + e^{iθ})/2` and
`i e^{iθ/2} sin(θ/2) = (e^{iθ} − 1)/2` -/
theorem ph_cos (t : A) : E.ph (t * E.halfA) * E.cosπ (t * E.halfA) = (1 + E.ph t) * E.half := by
  have := ph_half_sq h t; have := ph_neg_mul h (t * E.halfA)
  rw [h.cos_def]; grind

theorem ph_sin (t : A) : E.I * E.ph (t * E.halfA) * E.sinπ (t * E.halfA) = (E.ph t - 1) * E.half := by
  have := ph_half_sq h t; have := ph_neg_mul h (t * E.halfA); have := h.I_sq
  rw [h.sin_def]; grind

end scalars

end

end CirqVerif.GateDocs

namespace CirqVerif.Qasm
open CirqVerif.GateDocs
variable {A R : Type} [Lean.Grind.CommRing A] [Lean.Grind.CommRing R]

/-- what the quarter-turn phase is: `e^{iπ/2} = i` -/
structure LawfulQ (E : Env A R) : Prop extends Lawful E where
  ph_half : E.ph E.halfA = E.I

/-- what the eighth-turn phase is: `e^{iπ/4} = (1 + i)/√2` (needed by the `H**t` rules only) -/
structure LawfulQ8 (E : Env A R) : Prop extends LawfulQ E where
  ph_quarter : E.ph (E.halfA * E.halfA) = E.isq2 * (1 + E.I)

section facts
variable {E : Env A R} (h : LawfulQ E)
include h

theorem ph_neg_half : E.ph (-E.halfA) = -E.I :=
  ph_neg_eq h.toLawful (by have := h.I_sq; rw [h.ph_half]; grind)

theorem ph_one : E.ph 1 = -1 := by
  rw [← ph_mul_eq h.toLawful h.halfA_def, h.ph_half, h.I_sq]

end facts

theorem ph_neg_quarter {E : Env A R} (h : LawfulQ8 E) : E.ph (-(E.halfA * E.halfA)) = E.isq2 * (1 - E.I) :=
  ph_neg_eq h.toLawful (by have := h.I_sq; have := h.half_def; have := h.isq2_sq; rw [h.ph_quarter]; grind)

/-- angles as Cirq prints them: `pi*t` is the half-turn count `t` -/
@[reducible] def halfTurns (E : Env A R) : Angle A where
  zero := 0
  pi := 1
  half x := x * E.halfA
  neg x := -x
  add x y := x + y

def envTrig (E : Env A R) : Trig A R where
  cosHalf θ := E.cosπ (θ * E.halfA)
  sinHalf θ := E.sinπ (θ * E.halfA)
  cis α := E.ph α

end CirqVerif.Qasm

namespace CirqVerif.GateDocs

/-- the constants of the documentation in exact `Q8` arithmetic (function fields are unused by the
component tables) -/
def envQ8 : Env Rat Q8 where
  I := Q8.I
  half := Q8.half
  isq2 := Q8.isq2
  ph := fun _ => 0
  cosπ := fun _ => 0
  sinπ := fun _ => 0
  cis := fun _ => 0
  cos := fun _ => 0
  sin := fun _ => 0
  sqrt := fun _ => 0
  halfA := 1 / 2
  twoA := 2
  oneA := 1

end CirqVerif.GateDocs
