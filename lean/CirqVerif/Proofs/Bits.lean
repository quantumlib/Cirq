import CirqVerif.Proofs.Digits
/-! Base 2: the string fast path of `big_endian_int_to_digits` (`binDigits`, `binChars`) and the bit conversions, against `val2`. -/
namespace CirqVerif.Digits

def val2 (ds : List Nat) (acc : Nat) : Nat := ds.foldl (fun r d => 2 * r + d) acc

theorem horner_replicate2 (ds : List Nat) (acc : Nat) :
    horner ds (List.replicate ds.length 2) acc = val2 ds acc := by
  induction ds generalizing acc with
  | nil => rfl
  | cons d ds ih => rw [List.length_cons, List.replicate_succ, horner_cons, ih, Nat.add_comm]; rfl

theorem val2_acc (ds : List Nat) (acc : Nat) : val2 ds acc = acc * 2 ^ ds.length + val2 ds 0 := by
  rw [← horner_replicate2, ← horner_replicate2, horner_acc _ _ _ (by simp), prod_replicate]

theorem val2_append (a b : List Nat) (acc : Nat) : val2 (a ++ b) acc = val2 b (val2 a acc) := by
  simp [val2, List.foldl_append]

theorem val2_zeros (k : Nat) : val2 (List.replicate k 0) 0 = 0 := by
  induction k with
  | zero => rfl
  | succ k ih => simp [List.replicate_succ, val2] ; simpa [val2] using ih

theorem binDigits_val (v : Nat) : val2 (binDigits v) 0 = v := by
  fun_induction binDigits v with
  | case1 => rfl
  | case2 v h ih => rw [val2_append, ih]; simp [val2]; omega

theorem binDigits_lt2 (v : Nat) : ∀ d ∈ binDigits v, d < 2 := by
  fun_induction binDigits v with
  | case1 => simp
  | case2 v h ih => simpa using fun d hd => hd.elim (ih d) (fun e => by omega)

theorem binChars_val (v : Nat) : val2 (binChars v) 0 = v := by
  unfold binChars
  by_cases h : v = 0
  · simp [h, val2]
  · simp [h, binDigits_val]

theorem binChars_lt2 (v : Nat) : ∀ d ∈ binChars v, d < 2 := by
  unfold binChars
  by_cases h : v = 0
  · simp [h]
  · simpa [h] using binDigits_lt2 v

theorem inRange_replicate2 (ds : List Nat) (h : ∀ d ∈ ds, d < 2) :
    InRange ds (List.replicate ds.length 2) := by
  induction ds with
  | nil => trivial
  | cons d ds ih =>
    exact ⟨h d (by simp), ih (fun x hx => h x (by simp [hx]))⟩

theorem bitsToInt_eq_val2 (bits : List Bool) :
    bitsToInt bits = val2 (bits.map (fun b => if b then 1 else 0)) 0 := by
  unfold val2 bitsToInt
  rw [List.foldl_map]

theorem bitsToInt_cons (b : Bool) (bs : List Bool) :
    bitsToInt (b :: bs) = 2 ^ bs.length * b.toNat + bitsToInt bs := by
  rw [bitsToInt_eq_val2, bitsToInt_eq_val2, List.map_cons, ← List.length_map (fun b => if b then 1 else 0) (as := bs),
    Nat.mul_comm, ← val2_acc]
  cases b <;> simp [val2]

theorem bitsToInt_lt (bs : List Bool) : bitsToInt bs < 2 ^ bs.length := by
  induction bs with
  | nil => simp [bitsToInt]
  | cons b bs ih =>
    rw [bitsToInt_cons, List.length_cons, Nat.pow_succ]
    cases b <;> simp <;> omega

theorem intToBits_succ (v n : Nat) : intToBits v (n + 1) = v.testBit n :: intToBits v n := by
  simp [intToBits, List.range_succ]

theorem intToBits_congr (a b n : Nat) (h : ∀ i, i < n → a.testBit i = b.testBit i) :
    intToBits a n = intToBits b n :=
  List.map_congr_left (fun i hi => h i (by simpa using hi))

end CirqVerif.Digits
