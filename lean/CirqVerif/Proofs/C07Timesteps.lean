import CirqVerif.Model.C07Timesteps
import CirqVerif.Proofs.C05
/-! The invariant of the timestep factoring: one statement about `stepTS`, of which both theorems of Props/C07Timesteps are parts. -/
namespace CirqVerif.C07
open CirqVerif.C05

theorem conflicts_mono (m : Moment) (a o : Op) (ha : a ∈ m) (h : conflicts [a] o = true) : conflicts m o = true := by
  -- each of the four tests finds a qubit or key of `o` among those of the moment: here among those of `a`
  simp only [conflicts, operatesOn, keyConflict, mQubits, mMkeys, mCkeys, Bool.or_eq_true, Bool.not_eq_true', disj_eq_false_iff,
    List.mem_flatMap, List.flatMap_cons, List.flatMap_nil, List.append_nil] at h ⊢
  rcases h with ⟨x, h1, h2⟩ | (⟨x, h1, h2⟩ | ⟨x, h1, h2⟩) | ⟨x, h1, h2⟩
  · exact .inl ⟨x, h1, a, ha, h2⟩
  · exact .inr (.inl (.inl ⟨x, h1, a, ha, h2⟩))
  · exact .inr (.inl (.inr ⟨x, h1, a, ha, h2⟩))
  · exact .inr (.inr ⟨x, ⟨a, ha, h1⟩, h2⟩)

theorem earliest_gt (c : Circuit) (o : Op) (i : Nat) (m : Moment) (hm : c[i]? = some m) (hc : conflicts m o = true) :
    i < earliestAvailable c o c.length := by
  have hi : i < c.length := (List.getElem?_eq_some_iff.mp hm).1
  obtain ⟨h1, _⟩ := findIdx_reverse_take (p := (conflicts · o)) (Nat.le_refl c.length) rfl
  rw [earliestAvailable_eq, Nat.min_self]
  refine Nat.lt_of_not_le fun h => ?_
  rw [h1 i m h hi hm] at hc; cases hc

def In (l : List (List Op)) (t : Nat) (a : Op) : Prop := ∃ m, l[t]? = some m ∧ a ∈ m

/-- what `stepTS` does to the list that receives the operation -/
def bump (l : List (List Op)) (t : Nat) (o : Op) : List (List Op) :=
  (padTo l (t + 1)).set t ((padTo l (t + 1))[t]?.getD [] ++ [o])

theorem In.padTo {l : List (List Op)} {i : Nat} {a : Op} (h : In l i a) (n : Nat) : In (padTo l n) i a := by
  obtain ⟨m, hm, ha⟩ := h
  exact ⟨m, by rw [C07.padTo, List.getElem?_append_left (List.getElem?_eq_some_iff.mp hm).1, hm], ha⟩

theorem In.bump {l : List (List Op)} {i : Nat} {a : Op} (h : In l i a) (t : Nat) (o : Op) : In (bump l t o) i a := by
  obtain ⟨m, hm, ha⟩ := h.padTo (t + 1)
  by_cases hit : t = i
  · subst hit
    exact ⟨m ++ [o], by rw [C07.bump, List.getElem?_set_self (List.getElem?_eq_some_iff.mp hm).1, hm]; rfl, by simp [ha]⟩
  · exact ⟨m, by rw [C07.bump, List.getElem?_set_ne hit, hm], ha⟩

theorem in_bump_self {l : List (List Op)} {t : Nat} {o : Op} : In (bump l t o) t o :=
  ⟨_, List.getElem?_set_self (by simp [C07.padTo]; omega), by simp⟩

/-- the two lists of timesteps under one name, so that `stepTS` is described once -/
def bucket (s : TS) (two : Bool) : List (List Op) := if two then s.two else s.single

theorem bucket_stepTS (s : TS) (o : Op) (b : Bool) :
    bucket (stepTS s o) b = if b = isTwo o then bump (bucket s b) (timestepOf s o) o else padTo (bucket s b) (timestepOf s o + 1) := by
  cases b <;> cases h : isTwo o <;> simp [bucket, stepTS, bump, h]

theorem last_stepTS (s : TS) (o : Op) :
    (stepTS s o).last = if isTwo o then s.last else (wiresOf o).map (fun w => (w, timestepOf s o)) ++ s.last := by
  cases h : isTwo o <;> simp [stepTS, h]

theorem placed_iff (s : TS) (done : List (Op × Nat × Bool)) :
    Placed s done ↔ ∀ a t b, (a, t, b) ∈ done → In (bucket s b) t a :=
  ⟨fun h a t b => match b with | true => h.two_at a t | false => h.single_at a t,
   fun h => ⟨fun a t => h a t true, fun a t => h a t false⟩⟩

theorem lastOf_cons (x : Wire) (t : Nat) (tbl : List (Wire × Nat)) (w : Wire) :
    lastOf ((x, t) :: tbl) w = if x = w then t else lastOf tbl w := by
  by_cases hx : x = w <;> simp [lastOf, hx]

theorem lastOf_append_map (ws : List Wire) (t : Nat) (tbl : List (Wire × Nat)) (w : Wire) :
    lastOf (ws.map (fun w => (w, t)) ++ tbl) w = if w ∈ ws then t else lastOf tbl w := by
  induction ws with
  | nil => simp
  | cons x xs ih =>
    rw [List.map_cons, List.cons_append, lastOf_cons, ih]
    by_cases hx : x = w
    · simp [hx]
    · simp [hx, Ne.symm hx]

/-- what is known about the operations placed so far: where they are, that the table of last one-qubit timesteps bounds them, and
that they are in order -/
structure TSInv (s : TS) (done : List (Op × Nat × Bool)) : Prop where
  placed : ∀ a t b, (a, t, b) ∈ done → In (bucket s b) t a
  single_le : ∀ a t, (a, t, false) ∈ done → ∀ w ∈ wiresOf a, t ≤ lastOf s.last w
  ordered : done.Pairwise Rel

/-- one more operation: it lands strictly after every two-qubit operation it conflicts with (`earliest_gt`) and not before any
one-qubit operation it shares a wire with (the fold over `last`) -/
theorem TSInv.step {s : TS} {done : List (Op × Nat × Bool)} (h : TSInv s done) (o : Op) :
    TSInv (stepTS s o) (done ++ [(o, timestepOf s o, isTwo o)]) := by
  obtain ⟨hge0, hgew⟩ := foldl_max_ge (fun w => lastOf s.last w) (wiresOf o) (earliestAvailable s.two o s.two.length)
  change _ ≤ timestepOf s o at hge0
  change ∀ w ∈ wiresOf o, _ ≤ timestepOf s o at hgew
  refine ⟨?_, ?_, ?_⟩
  · intro a t b hmem
    rw [bucket_stepTS]
    rcases List.mem_append.mp hmem with hd | hn
    · split
      · exact (h.placed a t b hd).bump _ _
      · exact (h.placed a t b hd).padTo _
    · obtain ⟨rfl, rfl, rfl⟩ : a = o ∧ t = timestepOf s o ∧ b = isTwo o := by simpa using hn
      rw [if_pos rfl]; exact in_bump_self
  · intro a t hmem w hw
    rw [last_stepTS]
    rcases List.mem_append.mp hmem with hd | hn
    · have hle := h.single_le a t hd w hw
      split
      · exact hle
      · rw [lastOf_append_map]; split
        · rename_i hwo; have := hgew w hwo; omega
        · exact hle
    · obtain ⟨rfl, rfl, htwo⟩ : a = o ∧ t = timestepOf s o ∧ false = isTwo o := by simpa using hn
      rw [← htwo, if_neg Bool.false_ne_true, lastOf_append_map, if_pos hw]; exact Nat.le_refl _
  · refine List.pairwise_append.mpr ⟨h.ordered, List.pairwise_singleton _ _, ?_⟩
    rintro ⟨a, t, b⟩ hd e he
    obtain rfl := List.mem_singleton.mp he
    constructor
    · rintro rfl hc
      obtain ⟨m, hm, ha⟩ := h.placed a t true hd
      have := earliest_gt s.two o t m hm (conflicts_mono m a o ha hc)
      show t < timestepOf s o
      omega
    · rintro rfl ⟨w, hwa, hwo⟩
      have := h.single_le a t hd w hwa
      have := hgew w hwo
      show t ≤ timestepOf s o
      omega

theorem TSInv.run {s : TS} {done : List (Op × Nat × Bool)} (h : TSInv s done) (ops : List Op) :
    TSInv (ops.foldl stepTS s) (done ++ assign s ops) := by
  induction ops generalizing s done with
  | nil => simpa [assign] using h
  | cons o os ih => simpa [assign] using ih (h.step o)

theorem TSInv.init : TSInv {} [] := ⟨by simp, by simp, .nil⟩

end CirqVerif.C07
