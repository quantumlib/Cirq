import CirqVerif.Proofs.Tensor
/-!
Spectral calculus of an `EigenGate`: for orthogonal idempotent projectors `P₀ … P_{n-1}` over any
commutative ring, `U(a) = Σₖ aₖ Pₖ` multiplies coefficient-wise, hence `t ↦ Σₖ ph(t(θₖ+s)) Pₖ` is a
one-parameter group for every phase map `ph` with `ph(x+y) = ph x · ph y` (powers add, inverse undoes: Props/C08).
-/
namespace CirqVerif.Eigen

variable {R : Type} [Lean.Grind.CommRing R]

/-- `d×d` matrices as functions on `Nat × Nat` (only indices below `d` matter) -/
abbrev FMat (R : Type) := Nat → Nat → R

def fmul (d : Nat) (A B : FMat R) : FMat R := fun i j => sumL (List.range d) (fun m => A i m * B m j)

def spectral (n : Nat) (a : Nat → R) (P : Nat → FMat R) : FMat R :=
  fun i j => sumL (List.range n) (fun k => a k * P k i j)

theorem spectral_mul (d n : Nat) (a b : Nat → R) (P : Nat → FMat R)
    (horth : ∀ k l, k < n → l < n → ∀ i j, fmul d (P k) (P l) i j = if k = l then P k i j else 0)
    (i j : Nat) :
    fmul d (spectral n a P) (spectral n b P) i j = spectral n (fun k => a k * b k) P i j := by
  unfold fmul spectral
  -- Σ_m (Σ_k a_k P_k i m)(Σ_l b_l P_l m j) = Σ_k Σ_l a_k b_l (P_k P_l) i j, and P_k P_l = δ_kl P_k
  simp only [← sumL_mul_right, ← sumL_mul_left]
  rw [sumL_comm]
  refine sumL_congr (fun k hk => ?_)
  have hk' : k < n := List.mem_range.mp hk
  have key : ∀ l, sumL (List.range d) (fun m => a l * P l i m * (b k * P k m j))
      = a l * b k * fmul d (P l) (P k) i j := fun l =>
    (sumL_congr (g := fun m => a l * b k * (P l i m * P k m j)) (fun m _ => by grind)).trans (sumL_mul_left _ _ _)
  rw [sumL_comm, sumL_eq_single _ k _ List.nodup_range hk, key, horth k k hk' hk', if_pos rfl]
  intro l hl hlk
  rw [key, horth l k (List.mem_range.mp hl) hk', if_neg hlk]; grind

def eigenU {A : Type} [Add A] [Mul A] (n : Nat) (θ : Nat → A) (s : A) (ph : A → R) (P : Nat → FMat R) (t : A) : FMat R :=
  spectral n (fun k => ph (t * (θ k + s))) P

/-- `U(0) = Σₖ Pₖ`, the identity when the projectors are complete -/
theorem eigenU_zero {A : Type} [Lean.Grind.CommRing A] (n : Nat) (θ : Nat → A) (s : A) (ph : A → R)
    (hph0 : ph 0 = 1) (P : Nat → FMat R) (i j : Nat) :
    eigenU n θ s ph P 0 i j = sumL (List.range n) (fun k => P k i j) := by
  unfold eigenU spectral
  exact sumL_congr (fun k _ => by
    simp only [Lean.Grind.Semiring.zero_mul, hph0, Lean.Grind.Semiring.one_mul])

end CirqVerif.Eigen
