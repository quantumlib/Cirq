import CirqVerif.Base.Tensor
/-! Algebra of local operators on a qudit register, for every commutative ring of scalars. -/
namespace CirqVerif

section congr
variable {R : Type} [Add R] [OfNat R 0] {α : Type}

theorem sumL_cons (a : α) (l : List α) (f : α → R) : sumL (a :: l) f = f a + sumL l f := rfl

theorem sumL_congr {l : List α} {f g : α → R} (h : ∀ a ∈ l, f a = g a) : sumL l f = sumL l g := by
  induction l with
  | nil => rfl
  | cons x xs ih =>
    rw [sumL_cons, sumL_cons, h x (by simp), ih (fun a ha => h a (by simp [ha]))]

/-- no ring laws are asked of `S`: the lemma is also applied to `D8.toQ8` (Proofs/DyadicSim), and `D8` is no ring -/
theorem sumL_hom {S : Type} [Add S] [OfNat S 0] (φ : S → R) (h0 : φ 0 = 0) (hadd : ∀ x y, φ (x + y) = φ x + φ y)
    (l : List α) (f : α → S) : sumL l (fun a => φ (f a)) = φ (sumL l f) := by
  induction l with
  | nil => exact h0.symm
  | cons x xs ih => rw [sumL_cons, sumL_cons, hadd, ih]

end congr

section sums
variable {R : Type} [Lean.Grind.CommRing R] {α β : Type}

theorem sumL_nil (f : α → R) : sumL [] f = 0 := rfl

theorem sumL_add (l : List α) (f g : α → R) : sumL l (fun a => f a + g a) = sumL l f + sumL l g := by
  induction l with
  | nil => simp only [sumL_nil]; grind
  | cons x xs ih => simp only [sumL_cons, ih]; grind

theorem sumL_zero (l : List α) : sumL l (fun _ => (0 : R)) = 0 := by
  induction l with
  | nil => rfl
  | cons x xs ih => rw [sumL_cons, ih]; grind

theorem sumL_eq_zero (l : List α) (f : α → R) (h : ∀ a ∈ l, f a = 0) : sumL l f = 0 :=
  (sumL_congr h).trans (sumL_zero l)

theorem sumL_mul_left (l : List α) (c : R) (f : α → R) : sumL l (fun a => c * f a) = c * sumL l f :=
  sumL_hom (c * ·) (by grind) (by grind) l f

theorem sumL_mul_right (l : List α) (c : R) (f : α → R) : sumL l (fun a => f a * c) = sumL l f * c :=
  sumL_hom (· * c) (by grind) (by grind) l f

theorem sumL_comm (l₁ : List α) (l₂ : List β) (f : α → β → R) :
    sumL l₁ (fun a => sumL l₂ (fun b => f a b)) = sumL l₂ (fun b => sumL l₁ (fun a => f a b)) := by
  induction l₁ with
  | nil => simp only [sumL_nil, sumL_zero]
  | cons x xs ih => simp only [sumL_cons, ih, sumL_add]

theorem sumL_append (l₁ l₂ : List α) (f : α → R) : sumL (l₁ ++ l₂) f = sumL l₁ f + sumL l₂ f := by
  induction l₁ with
  | nil => simp only [List.nil_append, sumL_nil]; grind
  | cons x xs ih => simp only [List.cons_append, sumL_cons, ih]; grind

theorem sumL_map (l : List β) (g : β → α) (f : α → R) : sumL (l.map g) f = sumL l (fun b => f (g b)) := by
  induction l with
  | nil => rfl
  | cons x xs ih => simp only [List.map_cons, sumL_cons, ih]

theorem sumL_flatMap (l : List α) (g : α → List β) (f : β → R) :
    sumL (l.flatMap g) f = sumL l (fun a => sumL (g a) f) := by
  induction l with
  | nil => rfl
  | cons x xs ih => simp only [List.flatMap_cons, sumL_append, sumL_cons, ih]

theorem sumL_eq_single (l : List α) (x : α) (f : α → R) (hn : l.Nodup) (hx : x ∈ l)
    (h0 : ∀ a ∈ l, a ≠ x → f a = 0) : sumL l f = f x := by
  induction l with
  | nil => cases hx
  | cons y ys ih =>
    have ⟨hy, hn'⟩ := List.nodup_cons.mp hn
    rw [sumL_cons]
    rcases List.mem_cons.mp hx with rfl | hx'
    · rw [sumL_eq_zero ys f (fun a ha => h0 a (by simp [ha]) (fun e => hy (e ▸ ha)))]; grind
    · rw [h0 y (by simp) (fun e => hy (e ▸ hx')), ih hn' hx' (fun a ha => h0 a (by simp [ha]))]; grind

theorem sumL_delta [DecidableEq α] (l : List α) (x : α) (f : α → R) (hn : l.Nodup) [Decidable (x ∈ l)] :
    sumL l (fun a => if x = a then f a else 0) = if x ∈ l then f x else 0 := by
  split
  · next hx => rw [sumL_eq_single l x _ hn hx (fun a _ h => if_neg (Ne.symm h)), if_pos rfl]
  · next hx => exact sumL_eq_zero l _ (fun a ha => if_neg (fun (e : x = a) => hx (e ▸ ha)))

end sums

def ValidIdx : List Nat → Idx → Prop
  | [], [] => True
  | d :: ds, x :: xs => x < d ∧ ValidIdx ds xs
  | _, _ => False

theorem ValidIdx.length_eq : ∀ {shape : List Nat} {idx : Idx}, ValidIdx shape idx → idx.length = shape.length
  | [], [], _ => rfl
  | _ :: _, _ :: _, h => congrArg (· + 1) (ValidIdx.length_eq h.2)
  | [], _ :: _, h => h.elim
  | _ :: _, [], h => h.elim

/-- no range hypothesis on `a`: an axis outside the register reads digit 0 of dimension 1 -/
theorem ValidIdx.getD_lt : ∀ {shape : List Nat} {idx : Idx}, ValidIdx shape idx → ∀ a, idx.getD a 0 < shape.getD a 1
  | [], [], _, _ => Nat.one_pos
  | _ :: _, _ :: _, h, 0 => h.1
  | _ :: _, _ :: _, h, a + 1 => h.2.getD_lt a
  | [], _ :: _, h, _ => h.elim
  | _ :: _, [], h, _ => h.elim

theorem ValidIdx.getAxes {shape : List Nat} {idx : Idx} (h : ValidIdx shape idx) (axes : List Nat) :
    ValidIdx (axes.map (fun a => shape.getD a 1)) (getAxes idx axes) := by
  induction axes with
  | nil => trivial
  | cons a as ih => exact ⟨h.getD_lt a, ih⟩

theorem ValidIdx.set : ∀ {shape : List Nat} {idx : Idx}, ValidIdx shape idx → ∀ a v : Nat, v < shape.getD a 1 →
    ValidIdx shape (idx.set a v)
  | [], [], _, _, _, _ => trivial
  | _ :: _, _ :: _, h, 0, _, hv => ⟨hv, h.2⟩
  | _ :: _, _ :: _, h, a + 1, v, hv => ⟨h.1, h.2.set a v hv⟩
  | [], _ :: _, h, _, _, _ => h.elim
  | _ :: _, [], h, _, _, _ => h.elim

theorem ValidIdx.setAxes {shape : List Nat} {idx : Idx} (h : ValidIdx shape idx) (axes b : List Nat)
    (hb : ValidIdx (axes.map (fun a => shape.getD a 1)) b) : ValidIdx shape (setAxes idx axes b) := by
  induction axes generalizing idx b with
  | nil => exact h
  | cons a as ih => cases b with
    | nil => exact h
    | cons x xs => exact ih (h.set a x hb.1) xs hb.2

theorem mem_allIdx {dims : List Nat} {b : Idx} : b ∈ allIdx dims ↔ ValidIdx dims b := by
  induction dims generalizing b with
  | nil => cases b <;> simp [allIdx, ValidIdx]
  | cons d ds ih =>
    cases b <;> simp only [allIdx, ValidIdx, List.mem_flatMap, List.mem_range, List.mem_map, ih, reduceCtorEq,
      and_false, exists_const, List.cons.injEq, exists_eq_right_right]

theorem allIdx_nodup (dims : List Nat) : (allIdx dims).Nodup := by
  induction dims with
  | nil => simp [allIdx]
  | cons d ds ih =>
    refine List.pairwise_flatMap.mpr ⟨fun x _ => ih.map _ (fun _ _ h e => h (List.cons.inj e).2), ?_⟩
    refine List.nodup_range.imp (fun hxy a ha b hb e => ?_)
    obtain ⟨_, _, rfl⟩ := List.mem_map.mp ha
    obtain ⟨_, _, rfl⟩ := List.mem_map.mp hb
    exact hxy (List.cons.inj e).1

theorem allIdx_length (dims : List Nat) : ∀ b ∈ allIdx dims, b.length = dims.length :=
  fun _ hb => (mem_allIdx.mp hb).length_eq

theorem sumL_allIdx_eq_single {R : Type} [Lean.Grind.CommRing R] {dims : List Nat} {x : Idx}
    (hx : ValidIdx dims x) (f : Idx → R) (h0 : ∀ b ∈ allIdx dims, b ≠ x → f b = 0) :
    sumL (allIdx dims) f = f x :=
  sumL_eq_single _ x f (allIdx_nodup dims) (mem_allIdx.mpr hx) h0

theorem sumL_allIdx_append {R : Type} [Lean.Grind.CommRing R] (c t : List Nat) (f : Idx → R) :
    sumL (allIdx (c ++ t)) f = sumL (allIdx c) (fun a => sumL (allIdx t) (fun b => f (a ++ b))) := by
  induction c generalizing f with
  | nil => simp only [List.nil_append, allIdx, sumL_cons, sumL_nil]; grind
  | cons d ds ih => simp only [List.cons_append, allIdx, sumL_flatMap, sumL_map, ih]

theorem setAxes_length (idx : Idx) (axes b : List Nat) : (setAxes idx axes b).length = idx.length := by
  fun_induction setAxes idx axes b with
  | case1 idx a as x xs ih => rw [ih, List.length_set]
  | case2 => rfl

theorem set_setAxes_comm {idx : Idx} {as bs : List Nat} {a v : Nat} (h : a ∉ as) :
    (setAxes idx as bs).set a v = setAxes (idx.set a v) as bs := by
  induction as generalizing idx bs with
  | nil => rfl
  | cons a' as' ih => cases bs with
    | nil => rfl
    | cons z zs =>
      rw [setAxes, setAxes, ih (fun h' => h (List.mem_cons_of_mem _ h')),
        List.set_comm _ _ (fun (e : a' = a) => h (e ▸ List.mem_cons_self))]

theorem setAxes_getD_of_not_mem (idx : Idx) (axes b : List Nat) (k : Nat) (hk : k ∉ axes) :
    (setAxes idx axes b).getD k 0 = idx.getD k 0 := by
  fun_induction setAxes idx axes b with
  | case1 idx a as x xs ih =>
    rw [ih (fun h => hk (List.mem_cons_of_mem _ h)), List.getD_eq_getElem?_getD,
      List.getElem?_set_ne (fun (e : a = k) => hk (e ▸ List.mem_cons_self)), List.getD_eq_getElem?_getD]
  | case2 => rfl

theorem getAxes_setAxes_disjoint (idx : Idx) (A B c : List Nat) (hd : ∀ a ∈ A, a ∉ B) :
    getAxes (setAxes idx B c) A = getAxes idx A :=
  List.map_congr_left (fun a ha => setAxes_getD_of_not_mem idx B c a (hd a ha))

theorem setAxes_comm (idx : Idx) (A B b c : List Nat) (hd : ∀ a ∈ A, a ∉ B) :
    setAxes (setAxes idx A b) B c = setAxes (setAxes idx B c) A b := by
  induction A generalizing idx b with
  | nil => rfl
  | cons a as ih => cases b with
    | nil => rfl
    | cons x xs =>
      rw [setAxes, setAxes, ih _ _ (fun a' ha' => hd a' (List.mem_cons_of_mem _ ha')),
        set_setAxes_comm (hd a List.mem_cons_self)]

theorem getAxes_setAxes_same (idx : Idx) (axes b : List Nat) (hn : axes.Nodup)
    (hlt : ∀ a ∈ axes, a < idx.length) (hl : b.length = axes.length) :
    getAxes (setAxes idx axes b) axes = b := by
  induction axes generalizing idx b with
  | nil => exact (List.eq_nil_of_length_eq_zero hl).symm
  | cons a as ih =>
    obtain ⟨x, xs, rfl⟩ := List.exists_cons_of_length_eq_add_one hl
    have ⟨ha, hn'⟩ := List.nodup_cons.mp hn
    rw [setAxes, getAxes, List.map_cons, setAxes_getD_of_not_mem _ _ _ _ ha, List.getD_eq_getElem?_getD,
      List.getElem?_set_self (hlt a List.mem_cons_self)]
    exact congrArg (x :: ·) (ih _ xs hn' (fun a' ha' => by simpa using hlt a' (List.mem_cons_of_mem _ ha'))
      (Nat.succ.inj hl))

theorem setAxes_setAxes_same (idx : Idx) (axes b c : List Nat) (hn : axes.Nodup)
    (hb : b.length = axes.length) (hc : c.length = axes.length) :
    setAxes (setAxes idx axes b) axes c = setAxes idx axes c := by
  induction axes generalizing idx b c with
  | nil => rfl
  | cons a as ih =>
    obtain ⟨x, xs, rfl⟩ := List.exists_cons_of_length_eq_add_one hb
    obtain ⟨y, ys, rfl⟩ := List.exists_cons_of_length_eq_add_one hc
    have ⟨ha, hn'⟩ := List.nodup_cons.mp hn
    rw [setAxes, setAxes, setAxes, set_setAxes_comm ha, List.set_set]
    exact ih _ xs ys hn' (Nat.succ.inj hb) (Nat.succ.inj hc)

theorem setAxes_getAxes_self (idx : Idx) (axes : List Nat) : setAxes idx axes (getAxes idx axes) = idx := by
  induction axes with
  | nil => rfl
  | cons a as ih =>
    have hself : idx.set a (idx.getD a 0) = idx := by
      by_cases h : a < idx.length
      · rw [List.getD_eq_getElem?_getD, List.getElem?_eq_getElem h, Option.getD_some, List.set_getElem_self]
      · exact List.set_eq_of_length_le (Nat.le_of_not_lt h)
    rw [getAxes, List.map_cons, setAxes, hself]
    exact ih

theorem getAxes_append (idx : Idx) (a b : List Nat) : getAxes idx (a ++ b) = getAxes idx a ++ getAxes idx b :=
  List.map_append

theorem setAxes_append {idx : Idx} {a b x y : List Nat} (h : x.length = a.length) :
    setAxes idx (a ++ b) (x ++ y) = setAxes (setAxes idx a x) b y := by
  induction a generalizing idx x with
  | nil => rw [List.eq_nil_of_length_eq_zero h]; rfl
  | cons a' as ih =>
    obtain ⟨x', xs, rfl⟩ := List.exists_cons_of_length_eq_add_one h
    exact ih (Nat.succ.inj h)

section action
variable {R : Type} [Lean.Grind.CommRing R]

theorem applyOp_qubit (U : Mat R) (a : Nat) (ψ : State R) (idx : Idx) :
    applyOp U [2] [a] ψ idx
      = U [idx.getD a 0] [0] * ψ (idx.set a 0) + (U [idx.getD a 0] [1] * ψ (idx.set a 1) + 0) := rfl

theorem applyOp_of_diag_row (U : Mat R) (d : R) (shape axes : List Nat) (ψ : State R) (idx : Idx)
    (hv : ValidIdx shape idx) (hU : ∀ b, U (getAxes idx axes) b = if getAxes idx axes = b then d else 0) :
    applyOp U (axes.map (fun a => shape.getD a 1)) axes ψ idx = d * ψ idx := by
  unfold applyOp
  rw [sumL_allIdx_eq_single (hv.getAxes axes), hU, if_pos rfl, setAxes_getAxes_self]
  intro b _ hb
  rw [hU, if_neg (Ne.symm hb)]; grind

theorem applyOp_one (shape axes : List Nat) (ψ : State R) (idx : Idx) (hv : ValidIdx shape idx) :
    applyOp (fun r c => if r = c then 1 else 0) (axes.map (fun a => shape.getD a 1)) axes ψ idx = ψ idx := by
  rw [applyOp_of_diag_row _ 1 shape axes ψ idx hv (fun _ => rfl)]; grind

/-- an operator on `caxes ++ taxes` whose row at the index's own digits is block diagonal in the `caxes`
digits, with block `B`, acts as `B` on `taxes` -/
theorem applyOp_append_of_block_row (W B : Mat R) (shape caxes taxes : List Nat) (ψ : State R) (idx : Idx)
    (hv : ValidIdx shape idx)
    (hW : ∀ a b, a.length = caxes.length → W (getAxes idx caxes ++ getAxes idx taxes) (a ++ b)
      = if getAxes idx caxes = a then B (getAxes idx taxes) b else 0) :
    applyOp W ((caxes ++ taxes).map (fun a => shape.getD a 1)) (caxes ++ taxes) ψ idx
      = applyOp B (taxes.map (fun a => shape.getD a 1)) taxes ψ idx := by
  have hk : (getAxes idx caxes).length = caxes.length := List.length_map _
  unfold applyOp
  rw [List.map_append, sumL_allIdx_append, getAxes_append, sumL_allIdx_eq_single (hv.getAxes caxes)]
  · apply sumL_congr
    intro b _
    rw [hW _ _ hk, if_pos rfl, setAxes_append hk, setAxes_getAxes_self]
  · intro a ha hne
    apply sumL_eq_zero
    intro b _
    rw [hW _ _ ((allIdx_length _ a ha).trans (List.length_map _)), if_neg (Ne.symm hne)]; grind

end action

end CirqVerif
