import CirqVerif.Model.Eigen
import CirqVerif.Model.C13
/-!
Exact evaluation without rational arithmetic.  The tables extracted from the code and the matrices of the
QASM library have entries in `ℤ[ζ₈][1/2]`.  `D8` represents these with integer coefficients and a
power-of-two denominator that is never reduced; `D8.toQ8` is a ring homomorphism onto the dyadic points of `Q8`,
so every matrix function of the model commutes with it (`DMat.toQ_*`).  The kernel computes in `D8` several
times faster than in `Q8` (no `gcd` normalisation at every step); the obligations therefore evaluate the `D8`
twin of a check and transfer the answer.
-/
namespace CirqVerif

/-- `(a + bζ + cζ² + dζ³) / 2^k` -/
structure D8 where
  a : Int
  b : Int
  c : Int
  d : Int
  k : Nat

namespace D8

def pow2 (k : Nat) : Int := ((2 ^ k : Nat) : Int)

def isZero (x : D8) : Bool := x.a == 0 && x.b == 0 && x.c == 0 && x.d == 0

/-- zero summands and factors are skipped (the tables are sparse); equal denominators, the common case since a table is
converted at one denominator, add without scaling -/
instance : Add D8 := ⟨fun x y =>
  if y.isZero then x else if x.isZero then y
  else if x.k = y.k then ⟨x.a + y.a, x.b + y.b, x.c + y.c, x.d + y.d, x.k⟩
  else ⟨x.a * pow2 y.k + y.a * pow2 x.k, x.b * pow2 y.k + y.b * pow2 x.k, x.c * pow2 y.k + y.c * pow2 x.k,
        x.d * pow2 y.k + y.d * pow2 x.k, x.k + y.k⟩⟩

instance : Neg D8 := ⟨fun x => ⟨-x.a, -x.b, -x.c, -x.d, x.k⟩⟩

instance : Mul D8 := ⟨fun x y =>
  if x.isZero || y.isZero then ⟨0, 0, 0, 0, 0⟩
  else ⟨x.a * y.a - x.b * y.d - x.c * y.c - x.d * y.b,
        x.a * y.b + x.b * y.a - x.c * y.d - x.d * y.c,
        x.a * y.c + x.b * y.b + x.c * y.a - x.d * y.d,
        x.a * y.d + x.b * y.c + x.c * y.b + x.d * y.a, x.k + y.k⟩⟩

instance : OfNat D8 0 := ⟨⟨0, 0, 0, 0, 0⟩⟩
instance : OfNat D8 1 := ⟨⟨1, 0, 0, 0, 0⟩⟩
def conj (x : D8) : D8 := ⟨x.a, -x.d, -x.c, -x.b, x.k⟩

def sc (n : Int) (k : Nat) : Rat := n * (1 / 2) ^ k

def toQ8 (x : D8) : Q8 := ⟨sc x.a x.k, sc x.b x.k, sc x.c x.k, sc x.d x.k⟩

/-- the numerators of `q` over the denominator `2^k` (meaningful when `q · 2^k` is integral) -/
def ofQ8 (k : Nat) (q : Q8) : D8 := ⟨(q.a * 2 ^ k).num, (q.b * 2 ^ k).num, (q.c * 2 ^ k).num, (q.d * 2 ^ k).num, k⟩

theorem half_pow_mul (k : Nat) : (1 / 2 : Rat) ^ k * (pow2 k : Rat) = 1 := by
  induction k with
  | zero => decide +kernel
  | succ k ih =>
    have h2 : pow2 (k + 1) = pow2 k * 2 := by simp [pow2, Nat.pow_succ]
    rw [Rat.pow_succ, h2]
    grind

theorem sc_zero (k : Nat) : sc 0 k = 0 := by simp [sc]
theorem sc_neg (x : Int) (k : Nat) : -sc x k = sc (-x) k := by simp only [sc]; grind
theorem sc_add (x y : Int) (k : Nat) : sc x k + sc y k = sc (x + y) k := by simp only [sc]; grind
theorem sc_sub (x y : Int) (k : Nat) : sc x k - sc y k = sc (x - y) k := by simp only [sc]; grind

theorem sc_mul (x y : Int) (j k : Nat) : sc x j * sc y k = sc (x * y) (j + k) := by
  have h : (1 / 2 : Rat) ^ (j + k) = (1 / 2) ^ j * (1 / 2) ^ k := Lean.Grind.Semiring.pow_add ..
  simp only [sc, h]; grind

/-- the same number over a larger denominator -/
theorem sc_scale (x : Int) (j k : Nat) : sc (x * pow2 k) (j + k) = sc x j := by
  have h : (1 / 2 : Rat) ^ (j + k) = (1 / 2) ^ j * (1 / 2) ^ k := Lean.Grind.Semiring.pow_add ..
  have hk := half_pow_mul k
  simp only [sc, h]; grind

theorem sc_eq_iff (x y : Int) (j k : Nat) : sc x j = sc y k ↔ x * pow2 k = y * pow2 j := by
  rw [← sc_scale x j k, ← sc_scale y k j, Nat.add_comm k j]
  have hk := half_pow_mul (j + k)
  rw [← Rat.intCast_inj]
  simp only [sc]
  constructor <;> intro h <;> grind

theorem toQ8_zero : toQ8 0 = 0 := by decide +kernel
theorem toQ8_one : toQ8 1 = 1 := by decide +kernel

theorem toQ8_of_isZero {x : D8} (h : x.isZero = true) : toQ8 x = ⟨0, 0, 0, 0⟩ := by
  simp only [isZero, Bool.and_eq_true, beq_iff_eq] at h
  obtain ⟨⟨⟨ha, hb⟩, hc⟩, hd⟩ := h
  simp only [toQ8, ha, hb, hc, hd, sc_zero]

theorem toQ8_mul (x y : D8) : toQ8 (x * y) = toQ8 x * toQ8 y := by
  show toQ8 (if x.isZero || y.isZero then _ else _) = Q8.mk _ _ _ _
  split
  next h =>
    rcases Bool.or_eq_true .. |>.mp h with h | h <;> rw [toQ8_of_isZero h] <;> simp only [toQ8, sc_zero, Q8.mk.injEq] <;> grind
  next => simp only [toQ8, sc_mul, sc_add, sc_sub]

theorem toQ8_add (x y : D8) : toQ8 (x + y) = toQ8 x + toQ8 y := by
  show toQ8 (if y.isZero then _ else if x.isZero then _ else if x.k = y.k then _ else _) = Q8.mk _ _ _ _
  split
  next h => rw [toQ8_of_isZero h]; simp only [toQ8, Q8.mk.injEq]; grind
  next =>
  split
  next h => rw [toQ8_of_isZero h]; simp only [toQ8, Q8.mk.injEq]; grind
  next =>
  split
  next hk => simp only [toQ8, ← hk, sc_add]
  next =>
    simp only [toQ8, ← sc_add, sc_scale]
    simp only [Nat.add_comm x.k y.k, sc_scale]

theorem toQ8_neg (x : D8) : toQ8 (-x) = -toQ8 x := by
  show toQ8 ⟨_, _, _, _, _⟩ = Q8.mk _ _ _ _
  simp only [toQ8, sc_neg]

theorem toQ8_conj (x : D8) : toQ8 x.conj = (toQ8 x).conj := by
  simp only [toQ8, conj, Q8.conj, sc_neg]

/-- equality of the numbers denoted, cross-multiplied: results are compared without converting them back to `Q8` -/
instance : BEq D8 := ⟨fun x y =>
  x.a * pow2 y.k == y.a * pow2 x.k && x.b * pow2 y.k == y.b * pow2 x.k && x.c * pow2 y.k == y.c * pow2 x.k
    && x.d * pow2 y.k == y.d * pow2 x.k⟩

theorem beq_toQ8 (x y : D8) : (toQ8 x == toQ8 y) = (x == y) := by
  rw [Bool.eq_iff_iff, beq_iff_eq (a := toQ8 x)]
  show _ ↔ (_ && _ && _ && _) = true
  simp only [toQ8, Q8.mk.injEq, sc_eq_iff, Bool.and_eq_true, beq_iff_eq, and_assoc]

end D8

theorem map_beq_map {α β : Type} [BEq α] [BEq β] (f : α → β) (h : ∀ x y, (f x == f y) = (x == y)) :
    ∀ l m : List α, (l.map f == m.map f) = (l == m)
  | [], [] => rfl
  | [], _ :: _ => rfl
  | _ :: _, [] => rfl
  | x :: l, y :: m => by
    show (f x == f y && l.map f == m.map f) = (x == y && l == m)
    rw [h, map_beq_map f h l m]

/-! The kernel evaluates lazily and shares nothing: a `D8` computed by earlier operations is a term that is evaluated again
wherever it is used.  Matching a `Nat` against `n + 1` binds a numeral, so a copy rebuilt through such matches in
continuation-passing style is a literal: `forceMat m k` is `k m` with the entries of `m` evaluated once. -/

def forceNat {β : Type} : Nat → (Nat → β) → β
  | 0, k => k 0
  | n + 1, k => k (n + 1)

def forceInt {β : Type} : Int → (Int → β) → β
  | .ofNat n, k => forceNat n fun n => k (.ofNat n)
  | .negSucc n, k => forceNat n fun n => k (.negSucc n)

def D8.force {β : Type} (x : D8) (k : D8 → β) : β :=
  forceInt x.a fun a => forceInt x.b fun b => forceInt x.c fun c => forceInt x.d fun d => forceNat x.k fun e => k ⟨a, b, c, d, e⟩

def forceList {α β : Type} (f : α → (α → β) → β) : List α → (List α → β) → β
  | [], k => k []
  | x :: xs, k => f x fun x => forceList f xs fun xs => k (x :: xs)

theorem forceNat_eq {β : Type} (n : Nat) (k : Nat → β) : forceNat n k = k n := by cases n <;> rfl

theorem forceInt_eq {β : Type} (i : Int) (k : Int → β) : forceInt i k = k i := by cases i <;> simp only [forceInt, forceNat_eq]

theorem D8.force_eq {β : Type} (x : D8) (k : D8 → β) : x.force k = k x := by simp only [D8.force, forceInt_eq, forceNat_eq]

theorem forceList_eq {α β : Type} {f : α → (α → β) → β} (hf : ∀ x k, f x k = k x) (l : List α) (k : List α → β) :
    forceList f l k = k l := by
  induction l generalizing k with
  | nil => rfl
  | cons x xs ih => simp only [forceList, hf, ih]

abbrev DMat := List (List D8)

namespace DMat
open D8

def toQ (m : DMat) : QMat := m.map (·.map toQ8)
def ofQ (k : Nat) (m : QMat) : DMat := m.map (·.map (ofQ8 k))

def zero (n : Nat) : DMat := List.replicate n (List.replicate n 0)
def eye (n : Nat) : DMat := (List.range n).map (fun i => (List.range n).map (fun j => if i = j then 1 else 0))
def entry (m : DMat) (i j : Nat) : D8 := (m.getD i []).getD j 0
def dot (r c : List D8) : D8 := (List.zipWith (· * ·) r c).foldl (· + ·) 0

def forceMat {β : Type} (m : DMat) (k : DMat → β) : β := forceList (forceList D8.force) m k

theorem forceMat_eq {β : Type} (m : DMat) (k : DMat → β) : forceMat m k = k m :=
  forceList_eq (forceList_eq D8.force_eq) m k

/-- `QMat.mul` with both factors tabulated once, to `a.length` rows and columns as `QMat.mul` reads them, and forced: the
`2n³` look-ups of the entry-indexed product, which are most of its cost in the kernel, become `2n²` -/
def mul (a b : DMat) : DMat :=
  let n := a.length
  forceMat ((List.range n).map fun i => (List.range n).map (entry a i)) fun rows =>
  forceMat ((List.range n).map fun j => (List.range n).map (entry b · j)) fun cols =>
  rows.map fun r => cols.map (dot r)

def add (a b : DMat) : DMat := List.zipWith (fun r s => List.zipWith (· + ·) r s) a b
def smul (c : D8) (a : DMat) : DMat := a.map (fun r => r.map (c * ·))
def dagger (a : DMat) : DMat :=
  let n := a.length
  (List.range n).map (fun i => (List.range n).map (fun j => (entry a j i).conj))

theorem beq_toQ (a b : DMat) : (a.toQ == b.toQ) = (a == b) :=
  map_beq_map _ (map_beq_map _ D8.beq_toQ8) a b

theorem toQ_length (m : DMat) : m.toQ.length = m.length := by simp [toQ]

theorem toQ_entry (m : DMat) (i j : Nat) : QMat.entry m.toQ i j = toQ8 (entry m i j) := by
  simp only [QMat.entry, entry, toQ, List.getD_eq_getElem?_getD, List.getElem?_map]
  cases m[i]? with
  | none => exact toQ8_zero.symm
  | some r =>
    simp only [Option.map_some, Option.getD_some, List.getElem?_map]
    cases r[j]? with
    | none => exact toQ8_zero.symm
    | some x => rfl

theorem toQ_zero (n : Nat) : QMat.zero n = (zero n).toQ := by
  simp [QMat.zero, zero, toQ, toQ8_zero]

theorem toQ_eye (n : Nat) : QMat.eye n = (eye n).toQ := by
  simp only [QMat.eye, eye, toQ, List.map_map, Function.comp_def]
  refine List.map_congr_left fun i _ => List.map_congr_left fun j _ => ?_
  split <;> simp [toQ8_zero, toQ8_one]

theorem dot_map {ι : Type} (l : List ι) (f g : ι → D8) : dot (l.map f) (l.map g) = l.foldl (fun acc k => acc + f k * g k) 0 := by
  simp only [dot, List.zipWith_map, List.zipWith_self, List.foldl_map]

theorem toQ_mul (a b : DMat) : QMat.mul a.toQ b.toQ = (mul a b).toQ := by
  simp only [QMat.mul, mul, forceMat_eq, List.map_map, Function.comp_def, dot_map, toQ_length]
  simp only [toQ, List.map_map, Function.comp_def]
  refine List.map_congr_left fun i _ => List.map_congr_left fun j _ => ?_
  rw [← toQ8_zero]
  exact List.foldl_hom toQ8 fun x k => by
    rw [toQ8_add, toQ8_mul, ← toQ_entry, ← toQ_entry]; rfl

theorem toQ_dagger (a : DMat) : QMat.dagger a.toQ = (dagger a).toQ := by
  simp only [QMat.dagger, dagger, toQ_length]
  simp only [toQ, List.map_map, Function.comp_def]
  refine List.map_congr_left fun i _ => List.map_congr_left fun j _ => ?_
  rw [toQ8_conj, ← toQ_entry]; rfl

theorem toQ_smul (c : D8) (a : DMat) : QMat.smul (toQ8 c) a.toQ = (smul c a).toQ := by
  simp [QMat.smul, smul, toQ, toQ8_mul]

theorem toQ_add (a b : DMat) : QMat.add a.toQ b.toQ = (add a b).toQ := by
  simp only [QMat.add, add, toQ, List.zipWith_map, List.map_zipWith]
  congr; funext r s; congr; funext x y; exact (toQ8_add x y).symm

end DMat

open DMat D8

/-! The checkers of Model/C13 and Model/Eigen once more over `D8` (names in `…D`), each tied to the original by a `toQ_…` lemma; the
`…_of_dyadic` theorems are what the generated obligations call. -/

namespace C13

def pauliMatD (x z : Bool) : DMat :=
  match x, z with
  | false, false => [[1, 0], [0, 1]]
  | true, false => [[0, 1], [1, 0]]
  | false, true => [[1, 0], [0, -1]]
  | true, true => [[0, ⟨0, 0, -1, 0, 0⟩], [⟨0, 0, 1, 0, 0⟩, 0]]

def kronD (a b : DMat) : DMat :=
  a.flatMap (fun ra => b.map (fun rb => ra.flatMap (fun x => rb.map (fun y => x * y))))

def rowMatD (bits : List (Bool × Bool)) (r : Bool) : DMat :=
  let m := bits.foldl (fun acc (x, z) => kronD acc (pauliMatD x z)) [[1]]
  if r then DMat.smul (-1) m else m

theorem toQ_pauliMat (x z : Bool) : pauliMat x z = (pauliMatD x z).toQ := by
  cases x <;> cases z <;> decide +kernel

theorem toQ_kron (a b : DMat) : kron a.toQ b.toQ = (kronD a b).toQ := by
  simp [kron, kronD, toQ, List.map_flatMap, List.flatMap_map, Function.comp_def, toQ8_mul]

theorem toQ_rowMat (bits : List (Bool × Bool)) (r : Bool) : rowMat bits r = (rowMatD bits r).toQ := by
  have h1 : ([[1]] : QMat) = DMat.toQ [[1]] := by decide +kernel
  have hn : (-1 : Q8) = toQ8 (-1) := by decide +kernel
  have h := List.foldl_hom toQ (l := bits) (init := [[1]])
    (g₁ := fun acc (x, z) => kronD acc (pauliMatD x z)) (g₂ := fun acc (x, z) => kron acc (pauliMat x z))
    (fun acc b => by simp only [toQ_pauliMat, toQ_kron])
  simp only [rowMat, rowMatD, h1, h, hn]
  split <;> simp only [toQ_smul]

def isUnitaryD (u : DMat) : Bool := mul u (dagger u) == eye u.length

def ruleIsConjugationD (u : DMat) (entries : List RuleEntry) : Bool :=
  entries.all (fun e => mul (mul u (rowMatD e.inBits e.inR)) (dagger u) == rowMatD e.outBits e.outR)

theorem tableau_rule_of_dyadic (k : Nat) {u : QMat} {entries : List RuleEntry}
    (h : ((ofQ k u).toQ == u && (isUnitaryD (ofQ k u) && ruleIsConjugationD (ofQ k u) entries)) = true) :
    (isUnitary u && ruleIsConjugation u entries) = true := by
  simp only [Bool.and_eq_true, beq_iff_eq] at h
  rw [← h.1]
  simp only [isUnitary, ruleIsConjugation, toQ_rowMat, toQ_mul, toQ_dagger, toQ_length, toQ_eye, beq_toQ,
    Bool.and_eq_true]
  exact h.2

end C13
end CirqVerif

namespace CirqVerif.Eigen
open DMat D8

abbrev ComponentsD := List (Rat × DMat)

def ComponentsD.toQ (c : ComponentsD) : Components := c.map (fun p => (p.1, p.2.toQ))

def dimD (c : ComponentsD) : Nat := match c.head? with | some p => p.2.length | none => 0

def projectorLawsD (c : ComponentsD) : Bool :=
  c.all (fun p => p.2.length == dimD c && p.2.all (fun r => r.length == dimD c))
  && c.all (fun p => mul p.2 p.2 == p.2)
  && c.zipIdx.all (fun (p, i) => c.zipIdx.all (fun (q, j) => i == j || mul p.2 q.2 == zero (dimD c)))
  && c.foldl (fun acc p => add acc p.2) (zero (dimD c)) == eye (dimD c)
  && c.all (fun p => dagger p.2 == p.2)

theorem dim_toQ (c : ComponentsD) : dim c.toQ = dimD c := by
  cases c <;> simp [dim, dimD, ComponentsD.toQ, toQ_length]

theorem projectorLaws_toQ (c : ComponentsD) : projectorLaws c.toQ = projectorLawsD c := by
  have hfold : ∀ acc : DMat, c.toQ.foldl (fun acc p => QMat.add acc p.2) acc.toQ
      = (c.foldl (fun acc p => add acc p.2) acc).toQ := by
    intro acc
    rw [ComponentsD.toQ, List.foldl_map]
    exact List.foldl_hom toQ fun x p => toQ_add x p.2
  -- the dimension, `zero`, `eye` and the sum of the projectors of `c.toQ` are images under `toQ`
  simp only [projectorLaws, shapesOK, idempotent, orthogonal, complete, hermitian, dim_toQ, projectorLawsD, toQ_zero,
    toQ_eye, hfold]
  -- an `all` over `c.toQ` is an `all` over `c`; products, adjoints and comparisons commute with `toQ`
  simp only [ComponentsD.toQ, List.all_map, List.zipIdx_map, Function.comp_def, toQ_mul, toQ_dagger, toQ_length,
    beq_toQ, Prod.map, id]
  -- left: the row lengths in `shapesOK`, under `map`
  simp [toQ, Function.comp_def]

theorem projectorLaws_of_dyadic (k : Nat) {c : Components}
    (h : (ComponentsD.toQ (c.map fun p => (p.1, ofQ k p.2)) == c
          && projectorLawsD (c.map fun p => (p.1, ofQ k p.2))) = true) : projectorLaws c = true := by
  simp only [Bool.and_eq_true, beq_iff_eq] at h
  rw [← h.1, projectorLaws_toQ, h.2]

end CirqVerif.Eigen
