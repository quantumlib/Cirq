import CirqVerif.Model.C18
import CirqVerif.Props.C18
import CirqVerif.Proofs.Chunks
/-!
# C18 — property theorems (views of a record table, bit packing)
-/
namespace CirqVerif.C18
open CirqVerif.Digits

theorem byte_roundtrip (c : List Bool) (h : c.length ≤ 8) :
    intToBits (byteOfBits c) 8 = c ++ List.replicate (8 - c.length) false := by
  unfold byteOfBits
  have hl : (c ++ List.replicate (8 - c.length) false).length = 8 := by simp; omega
  have := C18_bits_int_bits (c ++ List.replicate (8 - c.length) false)
  rw [hl] at this; exact this

theorem chunk8_eq_chunks (fuel : Nat) (bs : List Bool) : chunk8 fuel bs = chunks 8 fuel bs := by
  induction fuel generalizing bs with
  | zero => rfl
  | succ fuel ih => cases bs <;> simp [chunk8, chunks, ih]

/-- `_unpack_bits(_pack_bits(bits), shape)` returns the original bits for **every** length
(np.packbits is big-endian within a byte and zero-pads the last byte). -/
theorem C18_unpack_pack (bits : List Bool) : unpackBits (packBits bits) bits.length = bits := by
  obtain ⟨p, hp⟩ := flatten_map_chunks (by decide : 0 < 8) false (fun c => intToBits (byteOfBits c) 8)
    byte_roundtrip bits.length bits (Nat.le_refl _)
  rw [unpackBits, packBits, chunk8_eq_chunks, List.map_map]
  exact hp ▸ List.take_left' rfl

theorem C18_pack_bytes_lt (bits : List Bool) : ∀ b ∈ packBits bits, b < 256 := by
  intro b hb
  rw [packBits, chunk8_eq_chunks] at hb
  obtain ⟨c, hc, rfl⟩ := List.mem_map.mp hb
  have hl : (c ++ List.replicate (8 - c.length) false).length = 8 := by
    have := length_le_of_mem_chunks hc; simp; omega
  have := bitsToInt_lt (c ++ List.replicate (8 - c.length) false)
  rwa [hl] at this

/-- measurements ↔ records with one instance are inverse views. -/
theorem C18_measurements_of_records (ms : List Row) :
    measurements 1 (recordsOfMeasurements ms) = .ok ms := by
  simp [measurements, recordsOfMeasurements, Function.comp_def]

theorem C18_measurements_rejects_repeated (n : Nat) (recs : Records) (h : n ≠ 1) :
    measurements n recs = .error .repeatedKey := by
  simp [measurements, h]

theorem counterAdd_total [DecidableEq α] (c : List (α × Nat)) (x : α) :
    ((counterAdd c x).map (·.2)).sum = (c.map (·.2)).sum + 1 := by
  -- empty table: a new entry; the head is the value: its count goes up; else look further
  fun_induction counterAdd c x with
  | case1 => rfl
  | case2 k rest => simp; omega
  | case3 y k rest h ih => simp [ih]; omega

/-- a histogram counts every repetition exactly once -/
theorem C18_counter_total [DecidableEq α] (xs : List α) :
    ((counter xs).map (·.2)).sum = xs.length := by
  unfold counter
  suffices h : ∀ c : List (α × Nat), ((xs.foldl counterAdd c).map (·.2)).sum = (c.map (·.2)).sum + xs.length by
    simpa using h []
  induction xs with
  | nil => simp
  | cons x xs ih => intro c; simp [ih, counterAdd_total]; omega

def lookup [DecidableEq α] (c : List (α × Nat)) (x : α) : Nat :=
  match c with
  | [] => 0
  | (y, k) :: rest => if y = x then k else lookup rest x

theorem lookup_counterAdd [DecidableEq α] (c : List (α × Nat)) (x y : α) :
    lookup (counterAdd c x) y = lookup c y + (if x = y then 1 else 0) := by
  fun_induction counterAdd c x with
  | case1 => simp [lookup]
  | case2 k rest => by_cases hxy : x = y <;> simp [lookup, hxy]
  | case3 z k rest hzx ih =>
    by_cases hzy : z = y
    · simp [lookup, hzy, show x ≠ y from fun h => hzx (hzy.trans h.symm)]
    · simp [lookup, hzy, ih]

/-- the count a histogram reports for a value is the number of repetitions folding to it -/
theorem C18_counter_count [DecidableEq α] (xs : List α) (y : α) :
    lookup (counter xs) y = xs.count y := by
  unfold counter
  suffices h : ∀ c : List (α × Nat), lookup (xs.foldl counterAdd c) y = lookup c y + xs.count y by
    simpa [lookup] using h []
  induction xs with
  | nil => simp
  | cons x xs ih =>
    intro c
    simp only [List.foldl_cons, ih, lookup_counterAdd, List.count_cons]
    by_cases h : x = y <;> simp [h] <;> omega

/-- data-frame cell = big-endian base-2 value of the row, exact for any width -/
theorem C18_dataframe_cell (row : Row) : dataframeCell row = val2 row 0 := by
  unfold dataframeCell
  rw [← List.sum_eq_foldl_nat]
  induction row with
  | nil => rfl
  | cons d row ih =>
    have : ∀ i, row.length + 1 - 1 - (i + 1) = row.length - 1 - i := fun i => by omega
    simp only [List.length_cons, List.range_succ_eq_map, List.zipWith_cons_cons, List.zipWith_map_left,
      List.sum_cons, this, ih]
    -- the head digit weighs `2 ^ row.length` (`val2_acc`)
    rw [show val2 (d :: row) 0 = val2 row d by simp [val2], val2_acc row d, Nat.mul_comm]
    simp

/-- for 0/1 rows the data-frame cell is `big_endian_bits_to_int` of the row -/
theorem C18_dataframe_cell_bits (bits : List Bool) :
    dataframeCell (bits.map (fun b => if b then 1 else 0)) = bitsToInt bits := by
  rw [C18_dataframe_cell, bitsToInt_eq_val2]

/-- `Result.__add__`: repetitions are appended, nothing reordered or lost. -/
theorem C18_add_records (s : Nat × Nat) (a b : Records) :
    addRecords s s a b = .ok (a ++ b) := by simp [addRecords]

theorem C18_add_rejects_shape (s t : Nat × Nat) (a b : Records) (h : s ≠ t) :
    addRecords s t a b = .error .shapeMismatch := by simp [addRecords, h]

end CirqVerif.C18
