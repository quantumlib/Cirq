import CirqVerif.Proofs.GateMat
/-!
# C06 — the commutation rules the phase-ejecting passes rely on, for every parameter value

`eject_z` carries a pending `Z**a` per qubit to the right and `eject_phased_paulis` a pending Pauli; each step
replaces `G ∘ Z**a` by `Z**a' ∘ G'`.  The rules below are the matrix identities that make those steps sound,
stated on the documented matrices (`Spec/GateDocs`) for all exponents over any commutative ring with a lawful
phase map.  The harness (`rule` stream of C06) checks that the passes emit exactly the right-hand sides.
Matrix products are written in application order: `mul B A` is "first `A`, then `B`".
-/
namespace CirqVerif.GateDocs
variable {A R : Type} [Lean.Grind.CommRing A] [Lean.Grind.CommRing R]

theorem ph_add_sub {E : Env A R} (h : Lawful E) (x y : A) : E.ph (x + y) = E.ph x * E.ph y := h.ph_add x y

/-- `eject_z`, PhasedX: a pending `Z**a` passes a `PhasedXPowGate` by lowering its phase exponent by `a` -/
theorem C06_rule_z_through_phasedx (E : Env A R) (h : Lawful E) (t p s a : A) :
    mul (phasedx E t p s) (zpow E a 0) = mul (zpow E a 0) (phasedx E t (p - a) s) := by
  have h1 := ph_sub_add h p a
  have h2 : E.ph (-p) * E.ph a = E.ph (-(p - a)) := ph_mul_eq h (by grind)
  simp only [phasedx_eq h, zpow, ph_mul_zero h]
  mat_eval
  mat_eq

/-- `eject_z`, PhasedXZ: a pending `Z**a` is absorbed by a following `PhasedXZGate` -/
theorem C06_rule_z_into_phasedxz (E : Env A R) (h : Lawful E) (x z ax a : A) :
    mul (phasedxz E x z ax) (zpow E a 0) = phasedxz E x (z + a) (ax - a) := by
  have h1 := ph_sub_add h ax a
  have h2 : E.ph (-ax) * E.ph a = E.ph (-(ax - a)) := ph_mul_eq h (by grind)
  simp only [phasedxz_eq h, zpow, ph_mul_zero h, h.ph_add]
  mat_eval
  mat_eq

/-- `eject_z`, diagonal two-qubit gates: `CZ**t` commutes with pending Z powers on both qubits -/
theorem C06_rule_z_commutes_cz (E : Env A R) (t s a b : A) :
    mul (czpow E t s) (kron (zpow E a 0) (zpow E b 0)) = mul (kron (zpow E a 0) (zpow E b 0)) (czpow E t s) := by
  simp only [czpow, zpow]
  mat_eval
  mat_eq

/-- `eject_z`, swap-like gates (`SWAP`, `ISWAP**±1`, `FSimGate(θ = π/2 + kπ, φ)`: no amplitude stays on `|01⟩`, `|10⟩`):
pending Z powers change sides -/
theorem C06_rule_z_through_swaplike (E : Env A R) (u v w x : R) (a b : A) :
    mul [[u, 0, 0, 0], [0, 0, v, 0], [0, w, 0, 0], [0, 0, 0, x]] (kron (zpow E a 0) (zpow E b 0))
      = mul (kron (zpow E b 0) (zpow E a 0)) [[u, 0, 0, 0], [0, 0, v, 0], [0, w, 0, 0], [0, 0, 0, x]] := by
  simp only [zpow]
  mat_eval
  mat_eq

/-- the π pulse about the axis at phase exponent `p` (`PhasedXPowGate(phase_exponent=p)` at exponent 1): `[[0, e^{-iπp}], [e^{iπp}, 0]]` -/
def piPulse (E : Env A R) (p : A) : M R := [[0, E.ph (-p)], [E.ph p, 0]]

/-- `eject_phased_paulis`: a `Z**a` after a pending π pulse is absorbed into its axis (`Z**a W(p) = e^{iπa/2} W(p + a/2)`) -/
theorem C06_rule_z_after_pauli (E : Env A R) (h : Lawful E) (p a : A) :
    mul (zpow E a 0) (piPulse E p) = smul (E.ph (a * E.halfA)) (piPulse E (p + a * E.halfA)) := by
  have h2 : E.ph (a * E.halfA) * E.ph (-(p + a * E.halfA)) = E.ph (-p) := ph_mul_eq h (by grind)
  have h3 : E.ph (a * E.halfA) * E.ph (p + a * E.halfA) = E.ph a * E.ph p := by
    rw [← h.ph_add a, ph_mul_eq h]; have := h.halfA_def; grind
  simp only [piPulse, zpow, ph_mul_zero h]
  mat_eval
  mat_eq

/-- any operator that exchanges `|0⟩` and `|1⟩` of the first qubit (a π pulse `W(a)` about any axis in the plane, `b = e^{-iπa}`,
`c = e^{iπa}`; Pauli X at `b = c = 1`) passes `CZ**t` by inverting it and leaving `Z**t` on the other qubit -/
theorem antidiag_through_cz (E : Env A R) (h : Lawful E) (t : A) (b c : R) :
    mul (czpow E t 0) (kron [[0, b], [c, 0]] (eye 2))
      = mul (kron [[0, b], [c, 0]] (eye 2)) (mul (czpow E (-t) 0) (kron (eye 2) (zpow E t 0))) := by
  have ht := ph_neg_mul h t
  simp only [czpow, zpow, ph_mul_zero h]
  mat_eval
  mat_eq

/-- `eject_phased_paulis`: a pending Pauli X on the first qubit passes `CZ**t` by inverting it and leaving `Z**t` on the other
qubit: `CZ**t (X ⊗ I) = (X ⊗ I) CZ**-t (I ⊗ Z**t)` -/
theorem C06_rule_x_through_cz (E : Env A R) (h : Lawful E) (t : A) :
    mul (czpow E t 0) (kron (pauliX : M R) (eye 2))
      = mul (kron (pauliX : M R) (eye 2)) (mul (czpow E (-t) 0) (kron (eye 2) (zpow E t 0))) :=
  antidiag_through_cz E h t 1 1

end CirqVerif.GateDocs
