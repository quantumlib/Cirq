import CirqVerif.Base.Pauli
/-!
# C14 — property theorems: Pauli-string products are faithful to the operators they denote
-/
namespace CirqVerif.Pauli

/-- single-qubit product table is the operator product, phase included: `(p·q)|b⟩ = p(q|b⟩)` -/
theorem mul_act (p q : P) (b : Bool) :
    ((p.mul q).2.act b).2 = (p.act (q.act b).2).2 ∧
    ((p.mul q).1 + ((p.mul q).2.act b).1) % 4 = ((q.act b).1 + (p.act (q.act b).2).1) % 4 := by
  cases p <;> cases q <;> cases b <;> decide

theorem actList_length (ps : List P) (bs : List Bool) : (actList ps bs).2.length = bs.length := by
  induction ps generalizing bs with
  | nil => simp [actList]
  | cons p ps ih => cases bs with
    | nil => simp [actList]
    | cons b bs => simp [actList, ih]

theorem add_mod4_congr {a a' b b' : Nat} (ha : a % 4 = a' % 4) (hb : b % 4 = b' % 4) : (a + b) % 4 = (a' + b') % 4 := by
  rw [Nat.add_mod, ha, hb, ← Nat.add_mod]

/-- `mul_act` for lists, qubit by qubit: the phases add up -/
theorem mulList_act (ps qs : List P) (bits : List Bool) (hs : ps.length = bits.length) (ht : qs.length = bits.length) :
    (actList (mulList ps qs).2 bits).2 = (actList ps (actList qs bits).2).2 ∧
    ((mulList ps qs).1 + (actList (mulList ps qs).2 bits).1) % 4
      = ((actList qs bits).1 + (actList ps (actList qs bits).2).1) % 4 := by
  induction bits generalizing ps qs with
  | nil =>
    obtain rfl := List.eq_nil_of_length_eq_zero hs
    obtain rfl := List.eq_nil_of_length_eq_zero ht
    exact ⟨rfl, rfl⟩
  | cons b bs ih =>
    obtain ⟨p, ps, rfl⟩ := List.exists_cons_of_length_eq_add_one hs
    obtain ⟨q, qs, rfl⟩ := List.exists_cons_of_length_eq_add_one ht
    have ih := ih ps qs (Nat.succ.inj hs) (Nat.succ.inj ht)
    have hm := mul_act p q b
    simp only [mulList, actList]
    refine ⟨by rw [hm.1, ih.1], ?_⟩
    -- on both sides: the two terms of this qubit, then those of the rest
    rw [Nat.add_add_add_comm, Nat.add_add_add_comm (q.act b).1]
    exact add_mod4_congr hm.2 ih.2

/-- **Product of Pauli strings = composition of the operators, coefficient and sign included**, for every
number of qubits: acting with `s·t` on any basis state equals acting with `t` and then with `s`. -/
theorem C14_pauli_mul_hom (s t : PStr) (bits : List Bool) (hs : s.ps.length = bits.length)
    (ht : t.ps.length = bits.length) :
    (s.mul t).act bits =
      (let (k1, b1) := t.act bits
       let (k2, b2) := s.act b1
       ((k1 + k2) % 4, b2)) := by
  have h := mulList_act s.ps t.ps bits hs ht
  simp only [PStr.mul, PStr.act, Nat.mod_add_mod, Nat.add_mod_mod]
  refine Prod.ext ?_ h.1
  rw [Nat.add_assoc (s.k + t.k), Nat.add_add_add_comm t.k, Nat.add_comm t.k]
  exact add_mod4_congr rfl h.2

theorem mul_swap (p q : P) :
    (p.mul q).2 = (q.mul p).2 ∧ ((q.mul p).1 + 2 * (if !p.commutes q then 1 else 0)) % 4 = (p.mul q).1 % 4 := by
  cases p <;> cases q <;> decide

/-- exchanging the factors: the same Paulis, and a sign for every position where they anticommute (for strings of any
lengths: the product and the count both stop at the shorter one) -/
theorem mulList_swap (ps qs : List P) :
    (mulList ps qs).2 = (mulList qs ps).2 ∧
    ((mulList qs ps).1 + 2 * (List.zip ps qs).countP (fun (p, q) => !p.commutes q)) % 4 = (mulList ps qs).1 % 4 := by
  induction ps generalizing qs with
  | nil => cases qs <;> exact ⟨rfl, rfl⟩
  | cons p ps ih =>
    cases qs with
    | nil => exact ⟨rfl, rfl⟩
    | cons q qs =>
      simp only [mulList, List.zip_cons_cons, List.countP_cons]
      refine ⟨by rw [(mul_swap p q).1, (ih qs).1], ?_⟩
      rw [Nat.mul_add, Nat.add_comm (2 * _), Nat.add_add_add_comm]
      exact add_mod4_congr (mul_swap p q).2 (ih qs).2

/-- **The parity test decides commutation**: two Pauli strings commute (`s·t = t·s`, coefficients
included) iff they anticommute on an even number of qubits. -/
theorem C14_commutes_iff (s t : PStr) (h : s.ps.length = t.ps.length) :
    s.mul t = t.mul s ↔ commutesList s.ps t.ps = true := by
  obtain ⟨h1, h2⟩ := mulList_swap s.ps t.ps
  simp only [PStr.mul, commutesList, PStr.mk.injEq, h1, and_true, beq_iff_eq, ← List.countP_eq_length_filter] at h2 ⊢
  omega

/-- `_vectorized_pauli_mul_phase`: the per-qubit exponents (each -1, 0 or 1) are summed in 8-bit
arithmetic and masked with 3; this is the exponent modulo 4 for **every** string length. -/
theorem C14_dense_mul_phase (total : Int) : (total % 256) % 4 = total % 4 :=
  Int.emod_emod_of_dvd total ⟨64, rfl⟩

end CirqVerif.Pauli
