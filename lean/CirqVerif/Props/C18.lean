import CirqVerif.Proofs.Bits
/-!
# C18 — property theorems (digit / bit conversions part)

`cirq.big_endian_digits_to_int`, `cirq.big_endian_int_to_digits`, `cirq.big_endian_bits_to_int`,
`cirq.big_endian_int_to_bits`: mutual inverses on their documented domains, for **every** mixed
radix and **every** width (no 64-bit bound), rejecting exactly the out-of-range inputs.
-/
namespace CirqVerif.Digits

/-- digits → int → digits, any mixed radix: in-range digits are accepted, the value is below the
product of the bases and converting back yields the same digits. -/
theorem C18_digits_int_digits (ds bs : List Nat) (h : InRange ds bs) :
    ∃ v : Nat, digitsToInt (ds.map Int.ofNat) (bs.map Int.ofNat) = .ok (v : Int)
      ∧ v < prod bs ∧ intToDigits bs v = .ok ds :=
  ⟨horner ds bs 0, digitsToInt_ofNat h, horner_lt h, intToDigits_ok_iff.mpr ⟨h, rfl⟩⟩

/-- int → digits → int: whenever `big_endian_int_to_digits` succeeds, the digits are in range and
`big_endian_digits_to_int` maps them back to the same integer. -/
theorem C18_int_digits_int (bs : List Nat) (v : Nat) (ds : List Nat)
    (h : intToDigits bs v = .ok ds) :
    InRange ds bs ∧ digitsToInt (ds.map Int.ofNat) (bs.map Int.ofNat) = .ok (v : Int) := by
  obtain ⟨hin, rfl⟩ := intToDigits_ok_iff.mp h
  exact ⟨hin, digitsToInt_ofNat hin⟩

/-- `big_endian_int_to_digits` accepts exactly the values below the product of the (positive) bases. -/
theorem C18_int_to_digits_accepts_iff (bs : List Nat) (v : Nat) (hb : ∀ b ∈ bs, 0 < b) :
    (∃ ds, intToDigits bs v = .ok ds) ↔ v < prod bs := by
  constructor
  · rintro ⟨ds, h⟩
    obtain ⟨hin, rfl⟩ := intToDigits_ok_iff.mp h
    exact horner_lt hin
  · intro hlt
    -- on positive bases the loop succeeds and leaves `v / prod bs`, zero for `v` below the product
    obtain ⟨ds', h1⟩ := intToDigitsLoop_total (bs := bs.reverse) (fun b hb' => hb b (by simpa using hb')) v
    exact ⟨ds'.reverse, by unfold intToDigits; rw [h1, prod_reverse, Nat.div_eq_of_lt hlt]; rfl⟩

/-- `big_endian_digits_to_int` rejects every digit list with an out-of-range digit or wrong length:
acceptance implies all digits are natural numbers below their (positive) base. -/
theorem C18_digits_to_int_accepts_only_in_range (ds bs : List Int) (v : Int)
    (h : digitsToInt ds bs = .ok v) :
    ds.length = bs.length ∧ ∀ p ∈ ds.zip bs, 0 ≤ p.1 ∧ p.1 < p.2 := by
  unfold digitsToInt at h
  split at h
  · cases h
  · next hl => exact ⟨Decidable.not_not.mp hl, digitsToIntLoop_ok_range ds bs 0 v h⟩

/-- The `digit_count and base == 2` string fast path of `big_endian_int_to_digits` returns exactly
what the general long-division path returns (so taking it, or falling through, is unobservable):
the zero-padded binary numeral of `v` is in range for `n` bases 2 and has value `v`. -/
theorem C18_binary_fast_path_sound (v n : Nat) (ds : List Nat) (h : binFastPath v n = some ds) :
    intToDigits (List.replicate n 2) v = .ok ds := by
  unfold binFastPath at h
  split at h
  · cases h
  · simp only at h
    split at h
    · next hle =>
      simp only [Option.some.injEq] at h
      have hlen : ds.length = n := by rw [← h]; simp; omega
      subst hlen
      refine intToDigits_ok_iff.mpr ⟨inRange_replicate2 _ (fun d hd => ?_), ?_⟩
      · rcases List.mem_append.mp (h ▸ hd) with hd | hd
        · rw [(List.mem_replicate.mp hd).2]; omega
        · exact binChars_lt2 v d hd
      · rw [horner_replicate2, ← h, val2_append, val2_zeros, binChars_val]
    · cases h

/-- bits → int → bits (any length): `big_endian_int_to_bits(big_endian_bits_to_int(b), bit_count=len(b)) = b`. -/
theorem C18_bits_int_bits (bits : List Bool) : intToBits (bitsToInt bits) bits.length = bits := by
  induction bits with
  | nil => rfl
  | cons b bs ih =>
    -- below position `bs.length` the bits are those of `bitsToInt bs`, from there on those of the leading bit
    have hbit : ∀ j, (bitsToInt (b :: bs)).testBit j
        = if j < bs.length then (bitsToInt bs).testBit j else b.toNat.testBit (j - bs.length) := fun j => by
      rw [bitsToInt_cons]; exact Nat.testBit_two_pow_mul_add _ (bitsToInt_lt bs) j
    rw [List.length_cons, intToBits_succ, hbit, if_neg (Nat.lt_irrefl _), Nat.sub_self,
      intToBits_congr _ (bitsToInt bs) _ (fun i hi => by rw [hbit, if_pos hi]), ih]
    cases b <;> rfl

/-- int → bits → int: the `bit_count` lowest bits are kept, higher bits dropped (as documented). -/
theorem C18_int_bits_int (v n : Nat) : bitsToInt (intToBits v n) = v % 2 ^ n := by
  induction n with
  | zero => simp [intToBits, bitsToInt, Nat.mod_one]
  | succ n ih =>
    rw [intToBits_succ, bitsToInt_cons, ih, show (intToBits v n).length = n by simp [intToBits], Nat.toNat_testBit,
      Nat.mod_pow_succ, Nat.add_comm]

end CirqVerif.Digits
