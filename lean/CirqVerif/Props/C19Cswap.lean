import CirqVerif.Props.C19
/-! the largest kernel evaluations of `Props.C19` have modules of their own, so that they build side by side -/
namespace CirqVerif.Qasm

/-- `cswap` (Fredkin) through `ccx` -/
theorem C19_qelib_cswap : exactColumns 3 [("cswap", [], [0, 1, 2])] =
    some [#[1, 0, 0, 0, 0, 0, 0, 0], #[0, 1, 0, 0, 0, 0, 0, 0], #[0, 0, 1, 0, 0, 0, 0, 0], #[0, 0, 0, 1, 0, 0, 0, 0],
          #[0, 0, 0, 0, 1, 0, 0, 0], #[0, 0, 0, 0, 0, 0, 1, 0], #[0, 0, 0, 0, 0, 1, 0, 0], #[0, 0, 0, 0, 0, 0, 0, 1]] :=
  exactColumns_of_dyadic (by decide +kernel)

end CirqVerif.Qasm
