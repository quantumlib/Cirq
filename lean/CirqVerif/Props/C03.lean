import CirqVerif.Proofs.GateMat
/-!
# C03 — property theorems: documented closed forms = eigen-decomposition the code carries

For every exponent `t` and global shift `s` (elements of any commutative ring `A` with a half), over any
commutative ring of scalars with a lawful phase map (`Lawful E`; in particular ℂ with `ph x = e^{iπx}`),
the matrix printed in the docstring equals `Σₖ e^{iπ t(θₖ+s)} Pₖ` for the (angle, projector) table that the
generated obligations (`Obligations/C03.lean`, re-decided on every run) show to be *the table the running
code returns from `_eigen_components()`*.
-/
namespace CirqVerif.GateDocs
variable {A R : Type} [Lean.Grind.CommRing A] [Lean.Grind.CommRing R]

theorem eigenDoc_two {E : Env A R} (h : Lawful E) (P Q : M R) (t s : A) :
    eigenDoc E [(0, P), (1, Q)] t s = madd (smul (E.ph (t * s)) P) (smul (E.ph (t * s) * E.ph t) Q) := by
  have e0 : t * (0 + s) = t * s := by grind
  simp only [eigenDoc, e0, ph_succ_shift h]

theorem C03_XPowGate_doc (E : Env A R) (h : Lawful E) (t s : A) : xpow E t s = eigenDoc E (xpowComps E 0 1) t s := by
  rw [xpow_eq h, xpowComps, eigenDoc_two h]; mat_eval; mat_eq

theorem C03_YPowGate_doc (E : Env A R) (h : Lawful E) (t s : A) : ypow E t s = eigenDoc E (ypowComps E 0 1) t s := by
  rw [ypow_eq h, ypowComps, eigenDoc_two h]; mat_eval; mat_eq

theorem C03_ZPowGate_doc (E : Env A R) (h : Lawful E) (t s : A) : zpow E t s = eigenDoc E (zpowComps 0 1) t s := by
  rw [zpow, zpowComps, eigenDoc_two h]; mat_eval

theorem C03_HPowGate_doc (E : Env A R) (h : Lawful E) (t s : A) : hpow E t s = eigenDoc E (hpowComps E 0 1) t s := by
  rw [hpow_eq h, hpowComps, eigenDoc_two h]; mat_eval; mat_eq

theorem C03_CZPowGate_doc (E : Env A R) (h : Lawful E) (t s : A) : czpow E t s = eigenDoc E (czpowComps 0 1) t s := by
  rw [czpow, czpowComps, eigenDoc_two h]; mat_eval

theorem C03_ZZPowGate_doc (E : Env A R) (h : Lawful E) (t s : A) : zzpow E t s = eigenDoc E (zzpowComps 0 1) t s := by
  rw [zzpow, zzpowComps, eigenDoc_two h]; mat_eval

theorem C03_SwapPowGate_doc (E : Env A R) (h : Lawful E) (t s : A) : swappow E t s = eigenDoc E (swappowComps E 0 1) t s := by
  rw [swappow, xblock_eq h, swappowComps, eigenDoc_two h]; mat_eval; mat_eq

theorem C03_XXPowGate_doc (E : Env A R) (h : Lawful E) (t s : A) : xxpow E t s = eigenDoc E (xxpowComps E 0 1) t s := by
  rw [xxpow_eq h, xxpowComps, eigenDoc_two h]; mat_eval; mat_eq

theorem C03_YYPowGate_doc (E : Env A R) (h : Lawful E) (t s : A) : yypow E t s = eigenDoc E (yypowComps E 0 1) t s := by
  rw [yypow_eq h, yypowComps, eigenDoc_two h]; mat_eval; mat_eq

end CirqVerif.GateDocs
