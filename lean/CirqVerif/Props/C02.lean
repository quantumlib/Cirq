import CirqVerif.Spec.Circuit
import CirqVerif.Proofs.Tensor
/-!
# C02 — property theorems: the projector algebra behind the Born-rule semantics

`projFn axes a ψ` keeps the amplitudes whose digits at `axes` equal the outcome `a` (unnormalised collapse).
The probability of outcome `a` is the squared norm of that vector; the theorems below are the facts that
make the sequential semantics `run` of `Spec/Circuit.lean` independent of *when* a measurement is performed
relative to operations on other qudits (terminal sampling = per-repetition simulation) and make outcome
probabilities sum to one.
-/
namespace CirqVerif.Circ

section
variable {R : Type} [Lean.Grind.CommRing R]

def projFn (axes : List Nat) (a : Idx) (ψ : State R) : State R :=
  fun idx => if getAxes idx axes = a then ψ idx else 0

def projMat (a : Idx) : Mat R := fun r c => if r = a ∧ c = a then 1 else 0

/-- the collapse is the action of the projector matrix `|a⟩⟨a|` on the measured axes -/
theorem C02_proj_is_operator (shape axes : List Nat) (a : Idx) (ψ : State R) (idx : Idx)
    (hv : ValidIdx shape idx) (hax : ∀ x ∈ axes, x < idx.length) :
    applyOp (projMat a) (axes.map (fun x => shape.getD x 1)) axes ψ idx = projFn axes a ψ idx := by
  rw [applyOp_of_diag_row _ (if getAxes idx axes = a then 1 else 0) shape axes ψ idx hv]
  · unfold projFn; split <;> grind
  · intro b
    unfold projMat
    by_cases hb : getAxes idx axes = b
    · subst hb; simp only [and_self, if_true]
    · rw [if_neg hb, if_neg (fun h => hb (h.1.trans h.2.symm))]

/-- **Measurement commutes with operations on other qudits**: collapsing `axesM` onto outcome `a` and
applying any operator `U` to disjoint axes can be done in either order (so a measurement can be deferred
to the end, or performed first, without changing any branch state or probability). -/
theorem C02_measure_commutes_with_disjoint_op (U : Mat R) (dU aU axesM : List Nat) (a : Idx)
    (ψ : State R) (idx : Idx) (hd : ∀ x ∈ aU, x ∉ axesM) :
    applyOp U dU aU (projFn axesM a ψ) idx = projFn axesM a (applyOp U dU aU ψ) idx := by
  unfold projFn applyOp
  simp only [getAxes_setAxes_disjoint idx axesM aU _ (fun x hx hu => hd x hu hx)]
  split
  · rfl
  · exact sumL_eq_zero _ _ (fun b _ => by grind)

/-- distinct outcomes are orthogonal, an outcome is idempotent (collapse) -/
theorem C02_proj_orthogonal (axes : List Nat) (a b : Idx) (ψ : State R) (idx : Idx) :
    projFn axes a (projFn axes b ψ) idx = if a = b then projFn axes a ψ idx else 0 := by
  unfold projFn
  by_cases h1 : getAxes idx axes = a <;> by_cases h2 : a = b <;> simp_all

/-- two measurements (of any axes) commute: the joint outcome distribution of terminal measurements can be
sampled at once from the final state -/
theorem C02_projections_commute (A B : List Nat) (a b : Idx) (ψ : State R) (idx : Idx) :
    projFn A a (projFn B b ψ) idx = projFn B b (projFn A a ψ) idx := by
  unfold projFn
  by_cases h1 : getAxes idx A = a <;> by_cases h2 : getAxes idx B = b <;> simp [h1, h2]

/-- **Completeness**: the collapsed states of all outcomes add up to the state (nothing is lost, so the
outcome probabilities of a normalised state sum to one) -/
theorem C02_outcomes_complete (shape axes : List Nat) (ψ : State R) (idx : Idx)
    (hv : ValidIdx shape idx) (hax : ∀ x ∈ axes, x < idx.length) :
    sumL (allIdx (axes.map (fun x => shape.getD x 1))) (fun a => projFn axes a ψ idx) = ψ idx := by
  unfold projFn
  rw [sumL_allIdx_eq_single (hv.getAxes axes), if_pos rfl]
  exact fun b _ hb => if_neg (Ne.symm hb)

end

/-- a repeated key appends a new record instance and leaves the earlier ones alone -/
theorem C02_record_append_get (r : Records) (k : String) (v : List Nat) :
    recGet (recAppend r k v) k = recGet r k ++ [v] := by
  unfold recAppend recGet
  split
  · next h =>
    -- the update keeps the keys, so the search stops at the same entry, now updated
    have hp : ((·.1 == k) ∘ fun p : String × List (List Nat) => if p.1 == k then (p.1, p.2 ++ [v]) else p)
        = (·.1 == k) := funext fun p => by simp only [Function.comp]; split <;> rfl
    rw [List.find?_map, hp]
    cases hf : r.find? (·.1 == k) with
    | none => exact absurd (List.any_eq_true.mp h) (fun ⟨x, hx, hk⟩ => List.find?_eq_none.mp hf x hx hk)
    | some y => simp only [Option.map_some, Option.getD_some, if_pos (List.find?_some hf)]
  · next h =>
    rw [List.find?_append, List.find?_eq_none.mpr (fun x hx hxk => h (List.any_eq_true.mpr ⟨x, hx, hxk⟩))]
    simp

end CirqVerif.Circ
