import CirqVerif.Model.C15
/-!
# C15 — the KAK interaction coefficients are canonical, for all inputs

`C15_canonicalize_canonical`: for every unit `q > 0` and every input vector the result of the normalisation lies in
the Weyl chamber `0 ≤ |z| ≤ y ≤ x ≤ π/4` with `z ≥ 0` when `x = π/4`; `C15_canonicalize_move`: it is reached from
the input by the symmetry moves only (shifts by multiples of π/2, double negations, swaps); `C15_canonical_fixed`:
a canonical vector is left unchanged.

The proofs go through the closed chamber `Chamber` (`Canonical` without the convention on the face `x = π/4`): the first
four steps bring every vector into it, `shiftZ` stays in it, `fixBoundary` maps it into `Canonical`, and on it the
whole routine *is* `fixBoundary` (`canonicalize_chamber`).
-/
namespace CirqVerif.C15

theorem cshift_range (q v : Int) (hq : 0 < q) : -q < cshift q v ∧ cshift q v ≤ q := by
  unfold cshift
  have h1 := Int.emod_nonneg (v + q - 1) (by omega : (2 * q) ≠ 0)
  have h2 := Int.emod_lt_of_pos (v + q - 1) (by omega : 0 < 2 * q)
  omega

theorem cshift_congr (q v : Int) : ∃ k, cshift q v = v + 2 * q * k := by
  refine ⟨-((v + q - 1) / (2 * q)), ?_⟩
  rw [cshift, Int.emod_def, Int.mul_neg]
  omega

theorem cshift_unique {q r : Int} (v k : Int) (h1 : -q < r) (h2 : r ≤ q) (h : v = r + 2 * q * k) : cshift q v = r := by
  have e : v + q - 1 = r + q - 1 + 2 * q * k := by omega
  rw [cshift, e, Int.add_mul_emod_self_left, Int.emod_eq_of_lt (by omega) (by omega)]
  omega

theorem cshift_id (q v : Int) (h1 : -q < v) (h2 : v ≤ q) : cshift q v = v :=
  cshift_unique v 0 h1 h2 (by omega)

theorem cshift_neg_q (q : Int) (hq : 0 < q) : cshift q (-q) = q :=
  cshift_unique (-q) (-1) (by omega) (Int.le_refl q) (by omega)

theorem cswap_snd_le (a b : Int) : absI (cswap a b).2 ≤ absI (cswap a b).1 ∧ absI (cswap a b).2 ≤ absI a := by
  unfold cswap
  split <;> simp only <;> omega

theorem cswap_all (P : Int → Prop) {a b : Int} (ha : P a) (hb : P b) : P (cswap a b).1 ∧ P (cswap a b).2 := by
  unfold cswap
  split
  · exact ⟨hb, ha⟩
  · exact ⟨ha, hb⟩

theorem cswap_of_le {a b : Int} (h : absI b ≤ absI a) : cswap a b = (a, b) :=
  if_neg (by omega)

/-- `sort3` orders by decreasing magnitude; every component of the result is a component of the input -/
theorem sort3_spec (v : V3) :
    absI (sort3 v).z ≤ absI (sort3 v).y ∧ absI (sort3 v).y ≤ absI (sort3 v).x ∧
    (∀ P : Int → Prop, P v.x → P v.y → P v.z → P (sort3 v).x ∧ P (sort3 v).y ∧ P (sort3 v).z) := by
  -- a three-comparator sorting network: with `p`, `r`, `t` the three swaps of the definition, `|r.2| ≤ |p.2| ≤ |p.1|`
  -- and `|r.2| ≤ |r.1|`, so `r.2` is below both inputs of `t`
  have hp := cswap_snd_le v.x v.y
  have hr := cswap_snd_le (cswap v.x v.y).2 v.z
  refine ⟨?_, (cswap_snd_le _ _).1, fun P hx hy hz => ?_⟩
  · exact (cswap_all (absI (cswap (cswap v.x v.y).2 v.z).2 ≤ absI ·) (Int.le_trans hr.2 hp.1) hr.1).2
  · have hp := cswap_all P hx hy
    have hr := cswap_all P hp.2 hz
    exact ⟨(cswap_all P hp.1 hr.1).1, (cswap_all P hp.1 hr.1).2, hr.2⟩

theorem sort3_id {v : V3} (hzy : absI v.z ≤ absI v.y) (hyx : absI v.y ≤ absI v.x) : sort3 v = v := by
  simp only [sort3, cswap_of_le hyx, cswap_of_le hzy]

theorem absI_of_nonneg {a : Int} (h : 0 ≤ a) : absI a = a := if_neg (by omega)

theorem negXZIf_spec (s : V3) :
    (negXZIf s).x = absI s.x ∧ (negXZIf s).y = s.y ∧ absI (negXZIf s).z = absI s.z := by
  unfold negXZIf
  split <;> refine ⟨?_, rfl, ?_⟩ <;> simp only [absI] <;> omega

theorem negYZIf_spec (s : V3) :
    (negYZIf s).x = s.x ∧ (negYZIf s).y = absI s.y ∧ absI (negYZIf s).z = absI s.z := by
  unfold negYZIf
  split <;> refine ⟨rfl, ?_, ?_⟩ <;> simp only [absI] <;> omega

theorem negXZIf_id {v : V3} (h : 0 ≤ v.x) : negXZIf v = v := if_neg (Int.not_lt.2 h)

theorem negYZIf_id {v : V3} (h : 0 ≤ v.y) : negYZIf v = v := if_neg (Int.not_lt.2 h)

theorem shiftZ_id {q : Int} {v : V3} (h1 : -q < v.z) (h2 : v.z ≤ q) : shiftZ q v = v := by
  rw [shiftZ, cshift_id q v.z h1 h2]

/-- the closed Weyl chamber `|z| ≤ y ≤ x ≤ π/4`: `Canonical` without the convention on the face `x = π/4` -/
def Chamber (q : Int) (v : V3) : Prop := absI v.z ≤ v.y ∧ v.y ≤ v.x ∧ v.x ≤ q

theorem Canonical.chamber {q : Int} {v : V3} (h : Canonical q v) : Chamber q v := ⟨h.1, h.2.1, h.2.2.1⟩

theorem chamber_negs {q : Int} {s : V3} (hzy : absI s.z ≤ absI s.y) (hyx : absI s.y ≤ absI s.x) (hxq : absI s.x ≤ q) :
    Chamber q (negYZIf (negXZIf s)) := by
  obtain ⟨x1, y1, z1⟩ := negXZIf_spec s
  obtain ⟨x2, y2, z2⟩ := negYZIf_spec (negXZIf s)
  rw [y1] at y2
  refine ⟨?_, ?_, ?_⟩ <;> omega

/-- in the chamber `z ∈ [−q, q]`, and `z = −q` only at the corner `(q, q, −q)`, where `shiftZ` makes it `(q, q, q)` -/
theorem chamber_shiftZ {q : Int} {v : V3} (hq : 0 < q) (h : Chamber q v) : Chamber q (shiftZ q v) := by
  obtain ⟨hzy, hyx, hxq⟩ := id h
  simp only [absI] at hzy
  by_cases hz : -q < v.z
  · rwa [shiftZ_id hz (by omega)]
  · have e : v.z = -q := by omega
    rw [shiftZ, e, cshift_neg_q q hq]
    exact ⟨by rw [absI_of_nonneg (Int.le_of_lt hq)]; show q ≤ v.y; omega, h.2⟩

theorem chamber_fixBoundary {q : Int} {v : V3} (h : Chamber q v) : Canonical q (fixBoundary q v) := by
  obtain ⟨hzy, hyx, hxq⟩ := h
  unfold fixBoundary
  split <;> simp only [Canonical, absI] at hzy ⊢ <;> omega

/-- **the returned interaction coefficients are canonical, for every input** -/
theorem C15_canonicalize_canonical (q : Int) (hq : 0 < q) (v : V3) : Canonical q (canonicalize q v) := by
  have box (t : Int) : absI (cshift q t) ≤ q := by
    have := cshift_range q t hq
    simp only [absI]; omega
  obtain ⟨hzy, hyx, hP⟩ := sort3_spec (shift3 q v)
  exact chamber_fixBoundary (chamber_shiftZ hq (chamber_negs hzy hyx (hP (absI · ≤ q) (box _) (box _) (box _)).1))

/-- on the chamber the routine is its last step: nothing else moves, except that the first shift takes the corner
`(q, q, −q)` to `(q, q, q)`, which is also where the last step takes it -/
theorem canonicalize_chamber {q : Int} {v : V3} (hq : 0 < q) (h : Chamber q v) : canonicalize q v = fixBoundary q v := by
  have main {v : V3} (h : Chamber q v) (hz : -q < v.z) : canonicalize q v = fixBoundary q v := by
    obtain ⟨hzy, hyx, hxq⟩ := h
    have hy : 0 ≤ v.y := by simp only [absI] at hzy; omega
    have hz' : v.z ≤ q := by simp only [absI] at hzy; omega
    have s1 : shift3 q v = v := by
      rw [shift3, cshift_id q v.x (by omega) hxq, cshift_id q v.y (by omega) (by omega), cshift_id q v.z hz hz']
    have s2 : sort3 v = v :=
      sort3_id (by rw [absI_of_nonneg hy]; exact hzy) (by rw [absI_of_nonneg hy, absI_of_nonneg (by omega)]; exact hyx)
    rw [canonicalize, s1, s2, negXZIf_id (by omega), negYZIf_id hy, shiftZ_id hz hz']
  by_cases hz : -q < v.z
  · exact main h hz
  · obtain ⟨x, y, z⟩ := v
    obtain ⟨hzy, hyx, hxq⟩ := h
    simp only [absI] at hzy hyx hxq hz
    obtain rfl : z = -q := by omega
    obtain rfl : y = q := by omega
    obtain rfl : x = y := by omega
    have hc : Chamber x ⟨x, x, x⟩ := ⟨by simp only [absI]; omega, Int.le_refl _, Int.le_refl _⟩
    have e : shift3 x ⟨x, x, -x⟩ = shift3 x ⟨x, x, x⟩ := by
      simp only [shift3, cshift_id x x (by omega) (by omega), cshift_neg_q x hq]
    rw [canonicalize, e, ← canonicalize, main hc (by show -x < x; omega)]
    rw [fixBoundary, fixBoundary, if_neg fun h => Int.lt_asymm hq h.2, if_pos ⟨rfl, Int.neg_neg_of_pos hq⟩]
    dsimp only
    congr 1 <;> omega

/-- **a canonical vector is left unchanged** (so the normalisation is idempotent) -/
theorem C15_canonical_fixed (q : Int) (hq : 0 < q) (v : V3) (h : Canonical q v) : canonicalize q v = v := by
  rw [canonicalize_chamber hq h.chamber]
  exact if_neg fun ⟨hx, hz⟩ => by have := h.2.2.2 hx; omega

theorem C15_canonicalize_idempotent (q : Int) (hq : 0 < q) (v : V3) :
    canonicalize q (canonicalize q v) = canonicalize q v :=
  C15_canonical_fixed q hq _ (C15_canonicalize_canonical q hq v)

theorem Move.trans {q : Int} {a b c : V3} (h1 : Move q a b) (h2 : Move q b c) : Move q a c := by
  induction h1 with
  | refl v => exact h2
  | shiftX k v w _ ih => exact Move.shiftX k v c (ih h2)
  | shiftY k v w _ ih => exact Move.shiftY k v c (ih h2)
  | shiftZ k v w _ ih => exact Move.shiftZ k v c (ih h2)
  | negXZ v w _ ih => exact Move.negXZ v c (ih h2)
  | negYZ v w _ ih => exact Move.negYZ v c (ih h2)
  | swapXY v w _ ih => exact Move.swapXY v c (ih h2)
  | swapYZ v w _ ih => exact Move.swapYZ v c (ih h2)

theorem Move.ite {q : Int} {v w : V3} {c : Prop} [Decidable c] (h : Move q v w) : Move q v (if c then w else v) := by
  split
  · exact h
  · exact Move.refl v

theorem move_shift3 (q : Int) (v : V3) : Move q v (shift3 q v) := by
  obtain ⟨kx, hx⟩ := cshift_congr q v.x
  obtain ⟨ky, hy⟩ := cshift_congr q v.y
  obtain ⟨kz, hz⟩ := cshift_congr q v.z
  rw [shift3, hx, hy, hz]
  exact Move.shiftX kx _ _ (Move.shiftY ky _ _ (Move.shiftZ kz _ _ (Move.refl _)))

theorem move_cswapXY (q : Int) (v : V3) : Move q v { v with x := (cswap v.x v.y).1, y := (cswap v.x v.y).2 } := by
  unfold cswap
  split
  · exact Move.swapXY _ _ (Move.refl _)
  · exact Move.refl _

theorem move_cswapYZ (q : Int) (v : V3) : Move q v { v with y := (cswap v.y v.z).1, z := (cswap v.y v.z).2 } := by
  unfold cswap
  split
  · exact Move.swapYZ _ _ (Move.refl _)
  · exact Move.refl _

theorem move_sort3 (q : Int) (v : V3) : Move q v (sort3 v) :=
  (move_cswapXY q v).trans ((move_cswapYZ q _).trans (move_cswapXY q _))

theorem move_negXZIf (q : Int) (v : V3) : Move q v (negXZIf v) := (Move.negXZ _ _ (Move.refl _)).ite

theorem move_negYZIf (q : Int) (v : V3) : Move q v (negYZIf v) := (Move.negYZ _ _ (Move.refl _)).ite

theorem move_shiftZ (q : Int) (v : V3) : Move q v (shiftZ q v) := by
  obtain ⟨k, hk⟩ := cshift_congr q v.z
  rw [shiftZ, hk]
  exact Move.shiftZ k _ _ (Move.refl _)

/-- `(x, y, z) ↦ (π/2 − x, y, −z)`: `shift(0, −1)` followed by `negate(0, 2)` -/
theorem move_flipXZ (q : Int) (v : V3) : Move q v { x := -(v.x - 2 * q), y := v.y, z := -v.z } := by
  rw [show v.x - 2 * q = v.x + 2 * q * -1 by omega]
  exact Move.shiftX (-1) _ _ (Move.negXZ _ _ (Move.refl _))

theorem move_fixBoundary (q : Int) (v : V3) : Move q v (fixBoundary q v) := (move_flipXZ q v).ite

/-- **the canonical coefficients are reached from the input by the symmetry moves only** -/
theorem C15_canonicalize_move (q : Int) (v : V3) : Move q v (canonicalize q v) := by
  unfold canonicalize
  exact (move_shift3 q v).trans ((move_sort3 q _).trans ((move_negXZIf q _).trans ((move_negYZIf q _).trans
    ((move_shiftZ q _).trans (move_fixBoundary q _)))))

example : canonicalize 4 { x := 9, y := -3, z := 6 } = { x := 3, y := 2, z := 1 } := by decide
example : canonicalize 4 { x := 4, y := 1, z := -1 } = { x := 4, y := 1, z := 1 } := by decide

end CirqVerif.C15
