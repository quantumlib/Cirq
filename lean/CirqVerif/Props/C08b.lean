import CirqVerif.Proofs.GateMat
/-!
# C08 — `phase_by` closed forms conjugate by the Z rotation, for every parameter value

`cirq.phase_by(g, τ, i)` promises `Z^{2τ} g Z^{-2τ}` on qubit `i` up to global phase.  The closed forms the
gates return (`PhasedXPowGate`: phase exponent + 2τ; `PhasedXZGate`: axis phase exponent + 2τ; diagonal gates:
unchanged) have exactly that matrix.  The harness compares `cirq.phase_by` with the conjugation numerically and
checks that these gates return the closed forms.
-/
namespace CirqVerif.GateDocs
variable {A R : Type} [Lean.Grind.CommRing A] [Lean.Grind.CommRing R]

theorem C08_phase_by_phasedx (E : Env A R) (h : Lawful E) (t p s φ : A) :
    mul (zpow E φ 0) (mul (phasedx E t p s) (zpow E (-φ) 0)) = phasedx E t (p + φ) s := by
  have h2 : E.ph (-p) * E.ph (-φ) = E.ph (-(p + φ)) := ph_mul_eq h (by grind)
  have hφ := ph_neg_mul h φ
  simp only [phasedx_eq h, smul, List.map_cons, List.map_nil, zpow_mul_zpow E h, h.ph_add]
  mat_eq

theorem C08_phase_by_phasedxz (E : Env A R) (h : Lawful E) (x z a φ : A) :
    mul (zpow E φ 0) (mul (phasedxz E x z a) (zpow E (-φ) 0)) = phasedxz E x z (a + φ) := by
  have h2 : E.ph (-a) * E.ph (-φ) = E.ph (-(a + φ)) := ph_mul_eq h (by grind)
  have hφ := ph_neg_mul h φ
  simp only [phasedxz_eq h, zpow_mul_zpow E h, h.ph_add]
  mat_eq

theorem C08_phase_by_z (E : Env A R) (h : Lawful E) (t s φ : A) :
    mul (zpow E φ 0) (mul (zpow E t s) (zpow E (-φ) 0)) = zpow E t s := by
  have hφ := ph_neg_mul h φ
  -- only the middle factor is written out (`simp only [zpow]` would open the outer two as well)
  rw [show zpow E t s = smul (E.ph (t * s)) [[1, 0], [0, E.ph t]] from rfl]
  simp only [smul, List.map_cons, List.map_nil, zpow_mul_zpow E h]
  mat_eq

end CirqVerif.GateDocs
