/-!
# C14 — powers of Pauli combinations: the closed forms of `pow_pauli_combination`

`(a·1 + ax X + ay Y + az Z)ⁿ` is computed by `cirq.pow_pauli_combination` (and `LinearCombinationOfGates / Operations ** n`) from
closed forms in `v = √(ax² + ay² + az²)`.  Over any commutative ring: the recurrence that *is* multiplication in the algebra
(`σ² = w·1`) has exactly those closed forms when `v² = w` (general branch) and `aⁿ, n·aⁿ⁻¹` when `w = 0` (degenerate branch); and
`(a+v)ⁿ = (a−v)ⁿ` alone does not select the degenerate branch (`v² = −1`, `n = 4`; the code also asks that `v` be negligible — that it
did not is the C14 defect a `fix:` commit repaired).  The harness compares the implementation with matrix powers on the same cases.
-/
namespace CirqVerif.C14
variable {R : Type} [Lean.Grind.CommRing R]

/-- powers of `a·1 + σ` in an algebra where `σ² = w·1` (for `σ = ax X + ay Y + az Z`: `w = ax² + ay² + az²`), written `p·1 + q·σ`:
the recurrence is multiplication by `a·1 + σ` -/
def powPair (a w : R) : Nat → R × R
  | 0 => (1, 0)
  | n + 1 => let (p, q) := powPair a w n; (a * p + w * q, p + a * q)

/-- at a root `v` of `v² = w` (an eigenvalue of `σ`) the pair evaluates to the power of the eigenvalue `a + v` of `a·1 + σ` -/
theorem powPair_eval (a w v : R) (hv : v * v = w) (n : Nat) :
    (powPair a w n).1 + v * (powPair a w n).2 = (a + v) ^ n := by
  induction n with
  | zero => simp only [powPair]; grind
  | succ n ih =>
    simp only [powPair]
    generalize (powPair a w n).1 = p at *
    generalize (powPair a w n).2 = q at *
    grind

/-- **`pow_pauli_combination`, general branch**: with `v² = w`, the identity coefficient of the `n`-th power is `((a+v)ⁿ + (a−v)ⁿ)/2` and
the factor of the Pauli part is `((a+v)ⁿ − (a−v)ⁿ)/(2v)` — stated without division -/
theorem C14_pow_pauli_closed_form (a w v : R) (hv : v * v = w) (n : Nat) :
    2 * (powPair a w n).1 = (a + v) ^ n + (a - v) ^ n ∧ 2 * v * (powPair a w n).2 = (a + v) ^ n - (a - v) ^ n := by
  -- both roots `v` and `−v`: sum and difference of the two evaluations
  have h1 := powPair_eval a w v hv n
  have h2 := powPair_eval a w (-v) (by grind) n
  rw [← Lean.Grind.Ring.sub_eq_add_neg] at h2
  constructor <;> grind

def natMul : Nat → R → R
  | 0, _ => 0
  | k + 1, x => natMul k x + x

theorem natMul_mul (k : Nat) (x y : R) : natMul k (x * y) = x * natMul k y := by
  induction k with
  | zero => simp [natMul]; grind
  | succ k ih => simp only [natMul, ih]; grind

/-- **degenerate branch** (`w = 0`, e.g. `X + iY`): the power is `aⁿ·1 + n·aⁿ⁻¹·σ` -/
theorem C14_pow_pauli_degenerate (a : R) (n : Nat) :
    (powPair a 0 (n + 1)).1 = a ^ (n + 1) ∧ (powPair a 0 (n + 1)).2 = natMul (n + 1) (a ^ n) := by
  -- the identity part is the evaluation at the double root `v = 0`; the Pauli part is not determined by it
  have fst (m : Nat) : (powPair a 0 m).1 = a ^ m := by
    have := powPair_eval a 0 0 (Lean.Grind.Semiring.zero_mul 0) m
    rwa [Lean.Grind.Semiring.zero_mul, Lean.Grind.Semiring.add_zero, Lean.Grind.Semiring.add_zero] at this
  refine ⟨fst _, ?_⟩
  induction n with
  | zero => simp only [powPair, natMul]; grind
  | succ n ih =>
    have hs : (powPair a 0 (n + 1 + 1)).2 = (powPair a 0 (n + 1)).1 + a * (powPair a 0 (n + 1)).2 := rfl
    show _ = natMul (n + 1) (a ^ (n + 1)) + a ^ (n + 1)
    rw [hs, fst, ih, ← natMul_mul]
    grind

/-- the two cases are different things: `(a+v)ⁿ = (a−v)ⁿ` does not mean `v = 0` — `(1+i)⁴ = (1−i)⁴` although `v = i ≠ 0`; here: with
`v² = -1`, the fourth power of `1 + σ` has no `σ` part, while the degenerate formula would give `4` -/
theorem C14_pow_pauli_i4 : (powPair (1 : R) (-1) 4).2 = 0 ∧ (powPair (1 : R) (-1) 4).1 = -4 := by
  simp only [powPair]; constructor <;> grind

end CirqVerif.C14
