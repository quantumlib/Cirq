import CirqVerif.Model.C09
/-!
# C09 — property theorems (channel representations, trajectory unravelling)
-/
namespace CirqVerif.C09

theorem selectKraus_shift (ws : List Rat) (p : Rat) (i : Nat) : selectKraus ws p i = (selectKraus ws p 0).map (· + i) := by
  induction ws generalizing p i with
  | nil => rfl
  | cons w ws ih =>
    simp only [selectKraus]
    split
    · simp
    · rw [ih _ (i + 1), ih _ (0 + 1), Option.map_map]
      congr 1; funext x; simp only [Function.comp_apply]; omega

theorem cumulative_nonneg (ws : List Rat) (hw : ∀ w ∈ ws, 0 ≤ w) (k : Nat) : 0 ≤ cumulative ws k := by
  fun_induction cumulative ws k with
  | case1 | case2 => exact Rat.le_refl
  | case3 w ws k ih => exact Rat.add_nonneg (hw w (by simp)) (ih fun x hx => hw x (by simp [hx]))

/-- **The trajectory loop selects Kraus operator `k` exactly when the uniform draw lies in the `k`-th
interval of the cumulative weights** — so branch `k` is taken with probability `wₖ = ‖Kₖψ‖²`
(for non-negative weights and a draw `p ≥ 0`). -/
theorem C09_select_iff (ws : List Rat) (hw : ∀ w ∈ ws, 0 ≤ w) (p : Rat) (hp : 0 ≤ p) (k : Nat)
    (hk : k < ws.length) :
    selectKraus ws p 0 = some k ↔ (cumulative ws k ≤ p ∧ p < cumulative ws (k + 1)) := by
  induction ws generalizing p k with
  | nil => simp at hk
  | cons w ws ih =>
    obtain ⟨hw0, hws⟩ := List.forall_mem_cons.mp hw
    have hc := cumulative_nonneg ws hws
    clear hw
    rw [selectKraus, selectKraus_shift]
    by_cases h : p - w < 0
    · -- the first operator is taken: `p < w`  (`clear ih`: with the induction hypothesis in its context `grind` instantiates it
      -- again and again and takes many times longer)
      rw [if_pos h]
      cases k with
      | zero => simp only [cumulative]; clear ih; grind
      | succ k => have := hc k; simp only [cumulative]; clear ih; grind
    · rw [if_neg h]
      cases k with
      | zero =>
        simp only [cumulative, Option.map_eq_some_iff, Nat.add_one_ne_zero, and_false, exists_false, false_iff]
        clear ih; grind
      | succ k =>
        have := ih hws (p - w) (by grind) k (by simpa using hk)
        simp only [cumulative, Option.map_eq_some_iff, Nat.add_right_cancel_iff, exists_eq_right, this]
        clear ih this; grind

theorem mul_add_div_mod {d a b : Nat} (hb : b < d) : (a * d + b) / d = a ∧ (a * d + b) % d = b := by
  rw [Nat.mul_comm, Nat.mul_add_div (by omega), Nat.mul_add_mod, Nat.div_eq_of_lt hb, Nat.mod_eq_of_lt hb]
  exact ⟨rfl, rfl⟩

/-- the Choi ↔ superoperator index reshuffle is an involution on `d²×d²` matrices
(`choi_to_superoperator ∘ superoperator_to_choi = id`) -/
theorem C09_reshuffle_involution (d : Nat) (hd : 0 < d) (m : Nat → Nat → α) (r c : Nat)
    (hr : r < d * d) (hc : c < d * d) :
    reshuffle d (reshuffle d m) r c = m r c := by
  obtain ⟨h1, h2⟩ := mul_add_div_mod (a := r / d) (Nat.div_lt_of_lt_mul hc)
  obtain ⟨h3, h4⟩ := mul_add_div_mod (a := r % d) (Nat.mod_lt c hd)
  simp only [reshuffle, h1, h2, h3, h4, Nat.div_add_mod']

end CirqVerif.C09
