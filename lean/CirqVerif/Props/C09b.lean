import CirqVerif.Proofs.GateMat
/-!
# C09 — the documented Kraus operators are trace preserving, for every parameter

The trajectory simulator picks Kraus operator `k` with probability `‖K_k ψ‖²` (C09_select_iff); those probabilities sum to one for
every state exactly when `Σ_k K_k† K_k = 1`.  Here that identity is proved for the documented one-qubit channels (Spec/GateDocs, tied
to `cirq.kraus` by the C03 channel stream) over any commutative ring with a conjugation that fixes the square roots — for every
parameter whose weights add up to one (`√(1−p)² + √p² = 1`: every `0 ≤ p ≤ 1` in the complex model, NonVacuity/ComplexModel.lean).
-/
namespace CirqVerif.GateDocs
variable {A R : Type} [Lean.Grind.CommRing A] [Lean.Grind.CommRing R]

/-- what conjugation does to the scalars the channel documentation uses: it is multiplicative, commutes with negation, fixes square roots,
0 and 1, and sends `i` to `−i` (additivity is not needed: the entries of the documented Kraus operators are products) -/
structure LawfulConj (E : Env A R) (conj : R → R) : Prop where
  conj_zero : conj 0 = 0
  conj_one : conj 1 = 1
  conj_neg : ∀ x, conj (-x) = -conj x
  conj_mul : ∀ x y, conj (x * y) = conj x * conj y
  conj_I : conj E.I = -E.I
  conj_sqrt : ∀ a, conj (E.sqrt a) = E.sqrt a

/-- `bit_flip(p)` is trace preserving (`Σ K†K = 1`) for every `p` whose two weights `√(1−p)²`, `√p²` add up to 1 (every `0 ≤ p ≤ 1`) -/
theorem C09_bit_flip_tp (E : Env A R) (conj : R → R) (hc : LawfulConj E conj) (p : A)
    (hs : E.sqrt (E.oneA - p) * E.sqrt (E.oneA - p) + E.sqrt (p) * E.sqrt (p) = 1) :
    krausSum conj (bitFlip E p) = [[1, 0], [0, 1]] := by
  simp only [bitFlip, pauliX]
  mat_eval
  simp only [hc.conj_sqrt, hc.conj_zero]
  mat_eq

/-- `phase_flip(p)` -/
theorem C09_phase_flip_tp (E : Env A R) (conj : R → R) (hc : LawfulConj E conj) (p : A)
    (hs : E.sqrt (E.oneA - p) * E.sqrt (E.oneA - p) + E.sqrt (p) * E.sqrt (p) = 1) :
    krausSum conj (phaseFlip E p) = [[1, 0], [0, 1]] := by
  simp only [phaseFlip, pauliZ]
  mat_eval
  simp only [hc.conj_mul, hc.conj_sqrt, hc.conj_neg, hc.conj_zero, hc.conj_one]
  mat_eq

/-- `amplitude_damp(γ)` -/
theorem C09_amplitude_damp_tp (E : Env A R) (conj : R → R) (hc : LawfulConj E conj) (γ : A)
    (hs : E.sqrt (E.oneA - γ) * E.sqrt (E.oneA - γ) + E.sqrt (γ) * E.sqrt (γ) = 1) :
    krausSum conj (amplitudeDamp E γ) = [[1, 0], [0, 1]] := by
  simp only [amplitudeDamp]
  mat_eval
  simp only [hc.conj_sqrt, hc.conj_zero, hc.conj_one]
  mat_eq

/-- `phase_damp(γ)` -/
theorem C09_phase_damp_tp (E : Env A R) (conj : R → R) (hc : LawfulConj E conj) (γ : A)
    (hs : E.sqrt (E.oneA - γ) * E.sqrt (E.oneA - γ) + E.sqrt (γ) * E.sqrt (γ) = 1) :
    krausSum conj (phaseDamp E γ) = [[1, 0], [0, 1]] := by
  simp only [phaseDamp]
  mat_eval
  simp only [hc.conj_sqrt, hc.conj_zero, hc.conj_one]
  mat_eq

/-- `asymmetric_depolarize(px, py, pz)` -/
theorem C09_asymmetric_depolarize_tp (E : Env A R) (conj : R → R) (hc : LawfulConj E conj) (hI : E.I * E.I = -1) (px py pz : A)
    (hs : E.sqrt (E.oneA - px - py - pz) * E.sqrt (E.oneA - px - py - pz) + E.sqrt (px) * E.sqrt (px) + E.sqrt (py) * E.sqrt (py) + E.sqrt (pz) * E.sqrt (pz) = 1) :
    krausSum conj (asymDepolarize E px py pz) = [[1, 0], [0, 1]] := by
  simp only [asymDepolarize, pauliX, pauliY, pauliZ]
  mat_eval
  simp only [hc.conj_mul, hc.conj_sqrt, hc.conj_neg, hc.conj_zero, hc.conj_one, hc.conj_I]
  mat_eq

/-- `generalized_amplitude_damp(p, γ)` -/
theorem C09_generalized_amplitude_damp_tp (E : Env A R) (conj : R → R) (hc : LawfulConj E conj) (p γ : A)
    (hp : E.sqrt (E.oneA - p) * E.sqrt (E.oneA - p) + E.sqrt (p) * E.sqrt (p) = 1) (hg : E.sqrt (E.oneA - γ) * E.sqrt (E.oneA - γ) + E.sqrt (γ) * E.sqrt (γ) = 1) :
    krausSum conj (genAmplitudeDamp E p γ) = [[1, 0], [0, 1]] := by
  simp only [genAmplitudeDamp]
  mat_eval
  simp only [hc.conj_mul, hc.conj_sqrt, hc.conj_zero]
  mat_eq

omit [Lean.Grind.CommRing A] in
/-- `ResetChannel` on a qubit -/
theorem C09_reset_tp (E : Env A R) (conj : R → R) (hc : LawfulConj E conj) :
    krausSum conj (reset : List (M R)) = [[1, 0], [0, 1]] := by
  simp only [reset]
  mat_eval
  simp only [hc.conj_zero, hc.conj_one]

end CirqVerif.GateDocs
