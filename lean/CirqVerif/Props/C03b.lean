import CirqVerif.Proofs.GateMat
/-!
# C03 — the size-parameterised families (GateDocs2): consistency with the qubit transcriptions

The qudit clock and shift gates at `d = 2` are the documented `ZPowGate` / `XPowGate` matrices, for every
exponent and global shift; Kraus lists have the documented number of operators for every size.
-/
namespace CirqVerif.GateDocs
variable {A R : Type} [Lean.Grind.CommRing A] [Lean.Grind.CommRing R]

/-- what the rational-number functions of `Env2` are assumed to be at the arguments `d = 2` uses -/
structure Lawful2 (E : Env2 A R) : Prop extends Lawful E.toEnv where
  rat_0_2 : E.ratA 0 2 = 0
  rat_2_2 : E.ratA 2 2 = 1
  ratR_half : E.ratR 1 2 = E.half
  ph_one : E.ph 1 = -1

theorem C03_quditZ_qubit (E : Env2 A R) (h : Lawful2 E) (t s : A) :
    quditZ E 2 t s = zpow E.toEnv t s := by
  have e0 : t * (0 + s) = t * s := by grind
  simp only [quditZ, zpow, List.range, List.range.loop, List.map_cons, List.map_nil, h.rat_0_2, h.rat_2_2, e0, ph_succ_shift h.toLawful]
  mat_eval

theorem C03_quditX_qubit (E : Env2 A R) (h : Lawful2 E) (t s : A) :
    quditX E 2 t s = xpow E.toEnv t s := by
  have e0 : t * (0 + s) = t * s := by grind
  simp only [quditX, xpow_eq h.toLawful, smul, sumR, List.range, List.range.loop, List.map_cons, List.map_nil, List.foldl_cons, List.foldl_nil,
    Nat.reduceAdd, Nat.reduceSub, Nat.reduceMod, Nat.mul_zero, Nat.zero_mul, Nat.mul_one, Nat.one_mul,
    h.rat_0_2, h.rat_2_2, h.ratR_half, e0, ph_succ_shift h.toLawful, h.ph_zero, h.ph_one]
  mat_eq

/-- the `(Z, False, Z, False)` interaction is the documented `CZ**t` matrix -/
theorem C03_pauliInteraction_CZ (E : Env2 A R) (h : Lawful2 E) (t : A) :
    pauliInteraction E 3 false 3 false t = [[1, 0, 0, 0], [0, 1, 0, 0], [0, 0, 1, 0], [0, 0, 0, E.ph t]] := by
  have hh := h.half_def
  simp only [pauliInteraction, pauliProj, madd2, pauliZ, Bool.false_eq_true, if_false]
  mat_eval
  mat_eq

theorem C03_depolarize_length (E : Env2 A R) (p : A) (n : Nat) : (depolarize E p n).length = 4 ^ n := by
  have : 1 ≤ 4 ^ n := Nat.pow_pos (by omega)
  simp [depolarize]; omega

theorem C03_resetD_length (d : Nat) : (resetD (R := R) d).length = d := by simp [resetD]
theorem C03_measureProjectors_length (N : Nat) : (measureProjectors (R := R) N).length = N := by simp [measureProjectors]

theorem C03_randomGate_length (E : Env2 A R) (p : A) (sub : List (M R)) (dim : Nat) :
    (randomGate E p sub dim).length = sub.length + 1 := by simp [randomGate]

/-- concrete permutation matrices (tests of the transcription, not general theorems) -/
example : qubitPermutation (R := Int) [1, 0] = [[1, 0, 0, 0], [0, 0, 1, 0], [0, 1, 0, 0], [0, 0, 0, 1]] := by decide
example : bitReverse 3 1 = 4 ∧ bitReverse 3 6 = 3 := by decide

end CirqVerif.GateDocs
