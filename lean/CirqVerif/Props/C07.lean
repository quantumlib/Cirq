import CirqVerif.Model.C07
/-!
# C07 — routing bookkeeping: the mapping stays a bijection and a routed circuit reads back as the original

`C07_applySwap_inv`: exchanging two logical qubits keeps the logical→physical and physical→logical arrays mutually
inverse permutations, hence so does every sequence of swaps.  `C07_replay_route`: for every sequence of router actions
(place an operation at the current places of its qubits / insert a SWAP) the physical events, read back from the initial
mapping by un-mapping operations and tracking SWAPs, are exactly the logical operations in the order they were placed,
and the mapping reached is the one the router reports.
-/
namespace CirqVerif.C07

theorem swapAt_length (l : List Nat) (i j : Nat) : (swapAt l i j).length = l.length := by
  simp [swapAt]

theorem swapAt_getD (l : List Nat) (i j k : Nat) (hi : i < l.length) (hj : j < l.length) (hij : i ≠ j) :
    (swapAt l i j).getD k 0 = if k = i then l.getD j 0 else if k = j then l.getD i 0 else l.getD k 0 := by
  simp only [swapAt, List.getD_eq_getElem?_getD, List.getElem?_set, List.length_set, hi, hj, if_true]
  by_cases hkj : j = k
  · subst hkj; simp [Ne.symm hij]
  · by_cases hki : i = k
    · subst hki; simp [hkj]
    · simp [hkj, hki, Ne.symm hkj, Ne.symm hki]

/-- one half of `C07_applySwap_inv`; the other half is the same statement with the two arrays exchanged -/
theorem swapAt_leftInv {n : Nat} {a b : List Nat} (ha : a.length = n) (hb : b.length = n)
    (h : ∀ i, i < n → a.getD i 0 < n ∧ b.getD (a.getD i 0) 0 = i) {i j : Nat} (hi : i < n) (hj : j < n) (hij : i ≠ j)
    (k : Nat) (hk : k < n) :
    (swapAt a i j).getD k 0 < n ∧ (swapAt b (a.getD i 0) (a.getD j 0)).getD ((swapAt a i j).getD k 0) 0 = k := by
  have fi := h i hi
  have fj := h j hj
  have fk := h k hk
  -- `a` is injective on `0 … n-1`, having a left inverse
  have hpne : a.getD i 0 ≠ a.getD j 0 := fun he => hij (by rw [← fi.2, he, fj.2])
  rw [swapAt_getD a i j k (ha ▸ hi) (ha ▸ hj) hij, swapAt_getD b _ _ _ (hb ▸ fi.1) (hb ▸ fj.1) hpne]
  by_cases hki : k = i
  · rw [if_pos hki, if_neg hpne.symm, if_pos rfl, hki]
    exact ⟨fj.1, fi.2⟩
  · by_cases hkj : k = j
    · rw [if_neg hki, if_pos hkj, if_pos rfl, hkj]
      exact ⟨fi.1, fj.2⟩
    · have n1 : a.getD k 0 ≠ a.getD i 0 := fun he => hki (by rw [← fk.2, he, fi.2])
      have n2 : a.getD k 0 ≠ a.getD j 0 := fun he => hkj (by rw [← fk.2, he, fj.2])
      rw [if_neg hki, if_neg hkj, if_neg n1, if_neg n2]
      exact fk

/-- **a swap keeps the two arrays mutually inverse** -/
theorem C07_applySwap_inv (n : Nat) (m : Mapping) (l1 l2 : Nat) (h : Inv n m) (h1 : l1 < n) (h2 : l2 < n) (hne : l1 ≠ l2) :
    Inv n (applySwap m l1 l2) := by
  obtain ⟨hl, hp, hf, hb⟩ := h
  have f1 := hf l1 h1
  have f2 := hf l2 h2
  have hpne : m.l2p.getD l1 0 ≠ m.l2p.getD l2 0 := fun he => hne (by rw [← f1.2, he, f2.2])
  refine ⟨by simp [applySwap, swapAt_length, hl], by simp [applySwap, swapAt_length, hp], swapAt_leftInv hl hp hf h1 h2 hne, ?_⟩
  have := swapAt_leftInv hp hl hb f1.1 f2.1 hpne
  rwa [f1.2, f2.2] at this

/-- the invariant of the router, and what it gives: at every step the mapping is a pair of inverse permutations, so un-mapping
an emitted operation, or the physical pair of a SWAP, gives back what the router was asked to do -/
theorem route_spec (n : Nat) (acts : List Action) (m : Mapping) (h : Inv n m) (hv : actionsValid n acts) :
    Inv n (route m acts).2 ∧ replay m (route m acts).1 = (logicalOps acts, (route m acts).2) := by
  induction acts generalizing m with
  | nil => exact ⟨h, rfl⟩
  | cons a rest ih =>
    cases a with
    | emit op =>
      obtain ⟨hi, hr⟩ := ih m h hv.2
      refine ⟨hi, ?_⟩
      have hq : (op.qubits.map (fun q => m.l2p.getD q 0)).map (fun p => m.p2l.getD p 0) = op.qubits := by
        rw [List.map_map]
        exact (List.map_congr_left fun q hq => (h.2.2.1 q (hv.1 q hq)).2).trans (List.map_id _)
      simp only [route, replay, logicalOps, hr, hq]
    | swap l1 l2 =>
      obtain ⟨hi, hr⟩ := ih _ (C07_applySwap_inv n m l1 l2 h hv.1 hv.2.1 hv.2.2.1) hv.2.2.2
      refine ⟨hi, ?_⟩
      simp only [route, replay, logicalOps]
      rw [(h.2.2.1 l1 hv.1).2, (h.2.2.1 l2 hv.2.1).2]
      exact hr

/-- the mapping after any valid action sequence is still a pair of inverse permutations -/
theorem C07_route_inv (n : Nat) : ∀ (acts : List Action) (m : Mapping), Inv n m → actionsValid n acts → Inv n (route m acts).2 :=
  fun acts m h hv => (route_spec n acts m h hv).1

/-- **a routed circuit reads back as the logical operations in order, under the reported final mapping** -/
theorem C07_replay_route (n : Nat) : ∀ (acts : List Action) (m : Mapping), Inv n m → actionsValid n acts →
    replay m (route m acts).1 = (logicalOps acts, (route m acts).2) :=
  fun acts m h hv => (route_spec n acts m h hv).2

/-- every emitted two-qubit operation sits where the mapping says its qubits are: adjacency of the physical pair is
adjacency of the logical pair under the current mapping (what `is_adjacent` tests before an operation is placed) -/
theorem C07_emit_places (m : Mapping) (op : LOp) (rest : List Action) :
    (route m (.emit op :: rest)).1.head? = some (.op op.id (op.qubits.map (fun q => m.l2p.getD q 0))) := by
  simp [route]

example : (route { l2p := [0, 1, 2], p2l := [0, 1, 2] } [.emit ⟨1, [0, 1]⟩, .swap 1 2, .emit ⟨2, [0, 2]⟩]).1
    = [.op 1 [0, 1], .swap 1 2, .op 2 [0, 1]] := by decide

end CirqVerif.C07
