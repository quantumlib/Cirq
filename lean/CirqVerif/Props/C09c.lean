/-!
# C09 — `InsertionNoiseModel`: the noise inserted for an operation belongs to a most specific matching key

Model of the key choice in `InsertionNoiseModel.noisy_moment` (cirq/devices/insertion_noise_model.py) over abstract keys with a
"matches the operation" predicate and a "is a proper subtype of" relation, and the theorem that the documented rule ("the most specific
type will match; if neither is more specific the first one will") yields a minimal matching key for every list of keys whenever the
relation is a strict partial order.  The C09 harness evaluates the choice on sets and checks minimality on the implementation's output.
-/
namespace CirqVerif.C09

/-- `InsertionNoiseModel.noisy_moment`, choice of the key for one operation: walk the keys in order, keep the first matching one and
replace it whenever a later matching key is a proper subtype of it -/
def pickStep {α : Type} (matches_ : α → Bool) (sub : α → α → Bool) (cur : Option α) (k : α) : Option α :=
  if matches_ k then (match cur with
    | none => some k
    | some m => if sub k m then some k else some m) else cur

def pickKey {α : Type} (matches_ : α → Bool) (sub : α → α → Bool) (keys : List α) : Option α :=
  keys.foldl (pickStep matches_ sub) none

/-- what the loop knows of the keys `S` walked so far: the current choice matches and no matching key walked is a proper subtype of
it; without a choice, none walked matches -/
def Minimal {α : Type} (matches_ : α → Bool) (sub : α → α → Bool) (S : α → Prop) : Option α → Prop
  | none => ∀ k, S k → matches_ k = false
  | some m => matches_ m = true ∧ ∀ k, S k → matches_ k = true → sub k m = false

/-- a later key replaces the choice only when it is a proper subtype of it; then (transitivity) whatever is below the new choice
was below the old one, and (irreflexivity) the new choice is not below itself -/
theorem Minimal.step {α : Type} {matches_ : α → Bool} {sub : α → α → Bool}
    (htrans : ∀ a b c, sub a b = true → sub b c = true → sub a c = true) (hirr : ∀ a, sub a a = false)
    {S : α → Prop} {cur : Option α} (h : Minimal matches_ sub S cur) (x : α) :
    Minimal matches_ sub (fun k => S k ∨ k = x) (pickStep matches_ sub cur x) := by
  fun_cases pickStep matches_ sub cur x with
  | case1 hx =>
    -- the first key that matches
    refine ⟨hx, ?_⟩
    rintro k (hk | rfl) hmk
    · rw [h k hk] at hmk; cases hmk
    · exact hirr _
  | case2 hx m hs =>
    -- `x` is below the choice `m` and replaces it
    refine ⟨hx, ?_⟩
    rintro k (hk | rfl) hmk
    · cases hkx : sub k x with
      | false => rfl
      | true => rw [← h.2 k hk hmk, htrans k x m hkx hs]
    · exact hirr _
  | case3 hx m hs =>
    -- `x` is not below the choice `m`, which stays
    refine ⟨h.1, ?_⟩
    rintro k (hk | rfl) hmk
    · exact h.2 k hk hmk
    · exact Bool.eq_false_iff.mpr hs
  | case4 cur hx =>
    -- `x` does not match: the choice stays, and `x` is no matching key
    cases cur with
    | none =>
      rintro k (hk | rfl)
      · exact h k hk
      · exact Bool.eq_false_iff.mpr hx
    | some m =>
      refine ⟨h.1, ?_⟩
      rintro k (hk | rfl) hmk
      · exact h.2 k hk hmk
      · exact absurd hmk hx

theorem Minimal.foldl {α : Type} {matches_ : α → Bool} {sub : α → α → Bool}
    (htrans : ∀ a b c, sub a b = true → sub b c = true → sub a c = true) (hirr : ∀ a, sub a a = false)
    (keys : List α) {S : α → Prop} {cur : Option α} (h : Minimal matches_ sub S cur) :
    Minimal matches_ sub (fun k => S k ∨ k ∈ keys) (keys.foldl (pickStep matches_ sub) cur) := by
  induction keys generalizing S cur with
  | nil => simpa using h
  | cons x xs ih => simpa [or_assoc] using ih (h.step htrans hirr x)

/-- **The inserted noise belongs to a most specific matching key**: when "is a proper subtype of" is a strict partial order, the key chosen
for an operation matches it and no matching key is a proper subtype of it; no key is chosen only when none matches -/
theorem C09_insertion_key_minimal {α : Type} (matches_ : α → Bool) (sub : α → α → Bool)
    (htrans : ∀ a b c, sub a b = true → sub b c = true → sub a c = true) (hirr : ∀ a, sub a a = false) (keys : List α) :
    (∀ m, pickKey matches_ sub keys = some m → matches_ m = true ∧ ∀ k ∈ keys, matches_ k = true → sub k m = false)
    ∧ (pickKey matches_ sub keys = none → ∀ k ∈ keys, matches_ k = false) := by
  have := Minimal.foldl (matches_ := matches_) htrans hirr keys (S := fun _ => False) (cur := none) (fun _ h => h.elim)
  unfold pickKey
  cases hr : keys.foldl (pickStep matches_ sub) none <;> simpa [hr, Minimal] using this

end CirqVerif.C09
