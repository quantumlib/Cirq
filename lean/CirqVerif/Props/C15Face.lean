import CirqVerif.Props.C15
/-!
# C15 — the x = π/4 face of the Weyl chamber

On the face `x = π/4` the interactions `(x, y, z)` and `(π/2 − x, y, −z)` are the same up to local gates; the canonical
form picks `z ≥ 0` there.  One unit below the face nothing is identified any more, so the canonical coefficients jump:
this is the place where `_fix_single_qubit_gates_around_kak_interaction` (four-FSim synthesis) can meet a target and a
synthesized interaction that have been given different representatives (pairing them as they came was a defect, repaired by a
`fix:` commit).  It re-expresses both with the *flip* below (`_with_non_negative_z`); these theorems say that the flip is a
symmetry of the code, where it lands, and that the two representatives it relates are as close as the input is to the face.
-/
namespace CirqVerif.C15

/-- `(x, y, z) ↦ (π/2 − x, y, −z)`: `shift(0, −1)` followed by `negate(0, 2)` -/
def flip (q : Int) (v : V3) : V3 := { x := 2 * q - v.x, y := v.y, z := -v.z }

theorem fixBoundary_eq_flip {q : Int} {v : V3} (hx : v.x = q) (hz : v.z < 0) : fixBoundary q v = flip q v := by
  rw [fixBoundary, if_pos ⟨hx, hz⟩, flip]
  congr 1
  omega

/-- the flip is a composition of the symmetry moves of the code, for every vector -/
theorem C15_flip_move (q : Int) (v : V3) : Move q v (flip q v) := by
  have e : flip q v = { x := -(v.x - 2 * q), y := v.y, z := -v.z } := by rw [flip]; congr 1; omega
  exact e ▸ move_flipXZ q v

theorem C15_flip_involutive (q : Int) (v : V3) : flip q (flip q v) = v := by
  obtain ⟨x, y, z⟩ := v
  show V3.mk (2 * q - (2 * q - x)) y (- -z) = V3.mk x y z
  rw [Int.neg_neg]
  congr 1
  omega

/-- the flip keeps the distance to the face and reverses the sign of z -/
theorem C15_flip_distance (q : Int) (v : V3) : (flip q v).x - q = q - v.x ∧ (flip q v).y = v.y ∧ (flip q v).z = -v.z := by
  refine ⟨?_, rfl, rfl⟩
  show 2 * q - v.x - q = q - v.x
  omega

/-- the part of the chamber the face theorems speak of: `z < 0`, so `|z| = −z` -/
theorem chamber_of_neg {q x y z : Int} (hz : z < 0) (hzy : -z ≤ y) (hyx : y ≤ x) (hxq : x ≤ q) : Chamber q ⟨x, y, z⟩ :=
  ⟨by show absI z ≤ y; simp only [absI]; omega, hyx, hxq⟩

/-- exactly on the face the canonical form is the flip of a vector with negative z … -/
theorem C15_face_identifies (q : Int) (hq : 0 < q) (y z : Int) (hz : z < 0) (hzy : -z ≤ y) (hyq : y ≤ q) :
    canonicalize q { x := q, y := y, z := z } = flip q { x := q, y := y, z := z } := by
  rw [canonicalize_chamber hq (chamber_of_neg hz hzy hyq (Int.le_refl q))]
  exact fixBoundary_eq_flip rfl hz

/-- … whereas one unit below the face the same vector is its own canonical form: the canonical coefficients of two
interactions that differ by one unit in x differ by (almost) π/2 in z. -/
theorem C15_below_face_fixed (q : Int) (hq : 1 < q) (y z : Int) (hz : z < 0) (hzy : -z ≤ y) (hyq : y ≤ q - 1) :
    canonicalize q { x := q - 1, y := y, z := z } = { x := q - 1, y := y, z := z } := by
  have h := chamber_of_neg hz hzy hyq (by omega : q - 1 ≤ q)
  exact C15_canonical_fixed q (by omega) _ ⟨h.1, h.2.1, h.2.2, fun (e : q - 1 = q) => by omega⟩

/-- The repair: giving both vectors the representative with `z ≥ 0` (flipping the one below the face) brings them back
within one unit of each other in every coordinate. -/
theorem C15_flip_repairs_face_jump (q : Int) (hq : 1 < q) (y z : Int) (hz : z < 0) (hzy : -z ≤ y) (hyq : y ≤ q - 1) :
    let onFace := canonicalize q { x := q, y := y, z := z }
    let below := flip q (canonicalize q { x := q - 1, y := y, z := z })
    below.x - onFace.x = 1 ∧ below.y = onFace.y ∧ below.z = onFace.z := by
  have h1 := C15_face_identifies q (by omega) y z hz hzy (by omega)
  have h2 := C15_below_face_fixed q hq y z hz hzy hyq
  simp only [h1, h2]
  refine ⟨?_, rfl, rfl⟩
  show 2 * q - (q - 1) - (2 * q - q) = 1
  omega

example : canonicalize 8 { x := 8, y := 5, z := -3 } = { x := 8, y := 5, z := 3 } := by decide
example : canonicalize 8 { x := 7, y := 5, z := -3 } = { x := 7, y := 5, z := -3 } := by decide
example : flip 8 { x := 7, y := 5, z := -3 } = { x := 9, y := 5, z := 3 } := by decide

end CirqVerif.C15
