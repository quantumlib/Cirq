import CirqVerif.Proofs.DyadicSim
/-!
# C19 — the transcription of `qelib1.inc` denotes the textbook matrices (exact, in ℚ(ζ₈))

The QASM text Cirq emits is interpreted (by the compiled driver, in floats) with `expandGate` (Spec/Qasm), the
expansion of every library gate into the built-ins `U` and `CX`.  Here the *same* definitions are evaluated
exactly, with angles in units of π/4 and amplitudes in ℚ(ζ₈), and the kernel checks that each parameter-free
gate of the library expands to its textbook matrix (columns are listed, big-endian qubit order).  These theorems
are about the specification side: a slip in transcribing `qelib1.inc` cannot go unnoticed.  The kernel computes the columns in
`D8` (integer coefficients over a power of two; `Proofs/DyadicSim.lean`) and only the result is compared in ℚ(ζ₈).
-/
namespace CirqVerif.Qasm

def exactColumns (nq : Nat) (gates : List (String × List Oct × List Nat)) : Option (List (Array Q8)) :=
  gateListColumns octTrig nq gates

theorem exactColumns_of_dyadic {nq : Nat} {gates : List (String × List Oct × List Nat)} {cols : Option (List (Array Q8))}
    (h : (gateListColumns octTrigD nq gates).map (·.map (·.map D8.toQ8)) = cols) : exactColumns nq gates = cols :=
  (toQ8_gateListColumns nq gates).trans h

private def i : Q8 := Q8.I
private def r : Q8 := Q8.isq2     -- 1/√2
private def z : Q8 := Q8.zeta     -- e^{iπ/4}

theorem C19_qelib_x : exactColumns 1 [("x", [], [0])] = some [#[0, 1], #[1, 0]] := exactColumns_of_dyadic (by decide +kernel)
theorem C19_qelib_y : exactColumns 1 [("y", [], [0])] = some [#[0, i], #[-i, 0]] := exactColumns_of_dyadic (by decide +kernel)
theorem C19_qelib_z : exactColumns 1 [("z", [], [0])] = some [#[1, 0], #[0, -1]] := exactColumns_of_dyadic (by decide +kernel)
theorem C19_qelib_h : exactColumns 1 [("h", [], [0])] = some [#[r, r], #[r, -r]] := exactColumns_of_dyadic (by decide +kernel)
theorem C19_qelib_s : exactColumns 1 [("s", [], [0])] = some [#[1, 0], #[0, i]] := exactColumns_of_dyadic (by decide +kernel)
theorem C19_qelib_sdg : exactColumns 1 [("sdg", [], [0])] = some [#[1, 0], #[0, -i]] := exactColumns_of_dyadic (by decide +kernel)
theorem C19_qelib_t : exactColumns 1 [("t", [], [0])] = some [#[1, 0], #[0, z]] := exactColumns_of_dyadic (by decide +kernel)
theorem C19_qelib_tdg : exactColumns 1 [("tdg", [], [0])] = some [#[1, 0], #[0, Q8.conj z]] := exactColumns_of_dyadic (by decide +kernel)
theorem C19_qelib_id : exactColumns 1 [("id", [], [0])] = some [#[1, 0], #[0, 1]] := exactColumns_of_dyadic (by decide +kernel)

/-- `sx = sdg·h·sdg` is `e^{-iπ/4}·√X`: `(1/√2)[[1, −i], [−i, 1]]` -/
theorem C19_qelib_sx : exactColumns 1 [("sx", [], [0])] = some [#[r, -(i * r)], #[-(i * r), r]] := exactColumns_of_dyadic (by decide +kernel)
theorem C19_qelib_sxdg : exactColumns 1 [("sxdg", [], [0])] = some [#[r, i * r], #[i * r, r]] := exactColumns_of_dyadic (by decide +kernel)
theorem C19_qelib_sx_sxdg : exactColumns 1 [("sx", [], [0]), ("sxdg", [], [0])] = some [#[1, 0], #[0, 1]] := exactColumns_of_dyadic (by decide +kernel)

/-- rotations by the angles representable here: `rx(π) = −iX`, `ry(π) = −iY`, `rz(π/2) = u1(π/2) = S` -/
theorem C19_qelib_rx_pi : exactColumns 1 [("rx", [⟨4⟩], [0])] = some [#[0, -i], #[-i, 0]] := exactColumns_of_dyadic (by decide +kernel)
theorem C19_qelib_ry_pi : exactColumns 1 [("ry", [⟨4⟩], [0])] = some [#[0, 1], #[-1, 0]] := exactColumns_of_dyadic (by decide +kernel)
theorem C19_qelib_rz_half_pi : exactColumns 1 [("rz", [⟨2⟩], [0])] = some [#[1, 0], #[0, i]] := exactColumns_of_dyadic (by decide +kernel)

theorem C19_qelib_cx : exactColumns 2 [("cx", [], [0, 1])] =
    some [#[1, 0, 0, 0], #[0, 1, 0, 0], #[0, 0, 0, 1], #[0, 0, 1, 0]] := exactColumns_of_dyadic (by decide +kernel)

/-- the control is the first argument also when it is the less significant qubit -/
theorem C19_qelib_cx_reversed : exactColumns 2 [("cx", [], [1, 0])] =
    some [#[1, 0, 0, 0], #[0, 0, 0, 1], #[0, 0, 1, 0], #[0, 1, 0, 0]] := exactColumns_of_dyadic (by decide +kernel)

theorem C19_qelib_cz : exactColumns 2 [("cz", [], [0, 1])] =
    some [#[1, 0, 0, 0], #[0, 1, 0, 0], #[0, 0, 1, 0], #[0, 0, 0, -1]] := exactColumns_of_dyadic (by decide +kernel)

theorem C19_qelib_cy : exactColumns 2 [("cy", [], [0, 1])] =
    some [#[1, 0, 0, 0], #[0, 1, 0, 0], #[0, 0, 0, i], #[0, 0, -i, 0]] := exactColumns_of_dyadic (by decide +kernel)

theorem C19_qelib_swap : exactColumns 2 [("swap", [], [0, 1])] =
    some [#[1, 0, 0, 0], #[0, 0, 1, 0], #[0, 1, 0, 0], #[0, 0, 0, 1]] := exactColumns_of_dyadic (by decide +kernel)

/-- `qelib1.inc`'s `ch` is the controlled Hadamard times the global phase `e^{iπ/4}` -/
theorem C19_qelib_ch : exactColumns 2 [("ch", [], [0, 1])] =
    some [#[z, 0, 0, 0], #[0, z, 0, 0], #[0, 0, z * r, z * r], #[0, 0, z * r, -(z * r)]] := exactColumns_of_dyadic (by decide +kernel)

/-- `cu1(π/2)`, `crz(π/2)`: the `half` their expansions take of π/2 is exact in units of π/4 -/
theorem C19_qelib_cu1_half_pi : exactColumns 2 [("cu1", [⟨2⟩], [0, 1])] =
    some [#[1, 0, 0, 0], #[0, 1, 0, 0], #[0, 0, 1, 0], #[0, 0, 0, i]] := exactColumns_of_dyadic (by decide +kernel)

theorem C19_qelib_crz_half_pi : exactColumns 2 [("crz", [⟨2⟩], [0, 1])] =
    some [#[1, 0, 0, 0], #[0, 1, 0, 0], #[0, 0, Q8.conj z, 0], #[0, 0, 0, z]] := exactColumns_of_dyadic (by decide +kernel)

/-- a name outside the library is an error, never silently the identity -/
theorem C19_undefined_gate : exactColumns 1 [("sxx", [], [0])] = none := exactColumns_of_dyadic (by decide +kernel)

/-- OpenQASM 3.0's `stdgates.inc` does not define `sxdg` -/
theorem C19_stdgates3_no_sxdg : stdgates3.contains "sxdg" = false := by decide

/-- classical registers are little-endian integers -/
theorem C19_creg_value : cregValue [1, 0, 1] = 5 ∧ cregValue [] = 0 ∧ cregValue [0, 1] = 2 := by decide

theorem getBits_setBit (cregs : List (String × List Nat)) (c c' : String) (i v : Nat) :
    getBits (setBit cregs c i v) c' = if c' = c then (getBits cregs c').set i v else getBits cregs c' := by
  induction cregs with
  | nil => simp [getBits, setBit]
  | cons e es ih =>
    obtain ⟨n, bs⟩ := e
    by_cases hn : n = c <;> by_cases hn' : n = c' <;> by_cases hc : c' = c <;> simp_all [getBits, setBit]

/-- writing a classical bit and reading the register back: only that bit changes … -/
theorem C19_setBit_get (cregs : List (String × List Nat)) (c : String) (i v : Nat) :
    getBits (setBit cregs c i v) c = (getBits cregs c).set i v := by
  rw [getBits_setBit, if_pos rfl]

/-- … and the other registers are untouched -/
theorem C19_setBit_other (cregs : List (String × List Nat)) (c c' : String) (i v : Nat) (h : c' ≠ c) :
    getBits (setBit cregs c i v) c' = getBits cregs c' := by
  rw [getBits_setBit, if_neg h]

end CirqVerif.Qasm
