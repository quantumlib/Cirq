import CirqVerif.Proofs.GateMat
/-!
# C19 — the parametric lines Cirq emits denote the documented gate matrices, for every parameter value

`Props/C19.lean` checks the parameter-free gates of `qelib1.inc` exactly.  Here the parametric spellings are
evaluated symbolically: the *same* `expandGate` the interpreter of the emitted text uses (Spec/Qasm), with angles
in half turns (`pi*t` ↦ `t`, as `QasmArgs` formats them) and the elementary functions of the gate documentation
(`Env`, Spec/GateDocs).  Each theorem says: the line(s) Cirq prints for a gate family expand to the matrix the
family's docstring defines, with the stated global phase, over any commutative ring with a lawful phase map in
which `e^{iπ/2} = i` (`LawfulQ`; satisfied by ℂ — NonVacuity/ComplexModel.lean).  The `emission` stream of the C19
harness checks that Cirq prints exactly these spellings.
-/
namespace CirqVerif.Qasm
open GateDocs
variable {A R : Type} [Lean.Grind.CommRing A] [Lean.Grind.CommRing R]

def flat2 (m : M R) : Array R :=
  #[(m.getD 0 []).getD 0 0, (m.getD 0 []).getD 1 0, (m.getD 1 []).getD 0 0, (m.getD 1 []).getD 1 0]

def mul2 (b a : Array R) : Array R :=
  #[b.getD 0 0 * a.getD 0 0 + b.getD 1 0 * a.getD 2 0, b.getD 0 0 * a.getD 1 0 + b.getD 1 0 * a.getD 3 0,
    b.getD 2 0 * a.getD 0 0 + b.getD 3 0 * a.getD 2 0, b.getD 2 0 * a.getD 1 0 + b.getD 3 0 * a.getD 3 0]

/-- the matrix of a list of one-qubit library gate applications (first applied first), through the *same*
`expandGate` the interpreter of the emitted text uses -/
def oneQubit (E : Env A R) (gates : List (String × List A)) : Option (Array R) :=
  letI := halfTurns E
  gates.foldl (fun acc g => match acc, expandGate g.1 g.2 [0] with
    | some m, some prims => some (prims.foldl (fun m pr => match pr with
        | .u θ φ lam _ => mul2 (uMatrix (envTrig E) θ φ lam) m
        | .cx _ _ => m) m)
    | _, _ => none) (some #[1, 0, 0, 1])

def scale2 (c : R) (a : Array R) : Array R := #[c * a.getD 0 0, c * a.getD 1 0, c * a.getD 2 0, c * a.getD 3 0]

section expand
variable (E : Env A R)
omit [Lean.Grind.CommRing R]

@[simp] theorem getD4_0 (a b c d x : R) : (#[a, b, c, d] : Array R).getD 0 x = a := rfl
@[simp] theorem getD4_1 (a b c d x : R) : (#[a, b, c, d] : Array R).getD 1 x = b := rfl
@[simp] theorem getD4_2 (a b c d x : R) : (#[a, b, c, d] : Array R).getD 2 x = c := rfl
@[simp] theorem getD4_3 (a b c d x : R) : (#[a, b, c, d] : Array R).getD 3 x = d := rfl

theorem expand_u3 (θ φ lam : A) : (letI := halfTurns E; expandGate "u3" [θ, φ, lam] [0]) = some [.u θ φ lam 0] := by rfl
theorem expand_u2 (φ lam : A) : (letI := halfTurns E; expandGate "u2" [φ, lam] [0]) = some [.u (1 * E.halfA) φ lam 0] := by rfl
theorem expand_rx (t : A) : (letI := halfTurns E; expandGate "rx" [t] [0]) = some [.u t (-(1 * E.halfA)) (1 * E.halfA) 0] := by rfl
theorem expand_ry (t : A) : (letI := halfTurns E; expandGate "ry" [t] [0]) = some [.u t 0 0 0] := by rfl
theorem expand_rz (t : A) : (letI := halfTurns E; expandGate "rz" [t] [0]) = some [.u 0 0 t 0] := by rfl

theorem halfTurns_add (x y : A) : (halfTurns E).add x y = x + y := rfl

end expand

macro "arr_eval" : tactic => `(tactic|
  simp only [oneQubit, expand_u3, expand_u2, expand_rx, expand_ry, expand_rz, halfTurns_add, uMatrix, envTrig, mul2, scale2, flat2, smul,
    List.foldl_cons, List.foldl_nil, List.map_cons, List.map_nil, List.getD_cons_zero, List.getD_cons_succ,
    getD4_0, getD4_1, getD4_2, getD4_3])

/-- `XPowGate(t)` / `Rx(πt)` is emitted as `rx(pi*t)`: `u3(θ, −π/2, π/2)` is the documented rotation -/
theorem C19_emit_rx (E : Env A R) (h : LawfulQ E) (t : A) :
    oneQubit E [("rx", [t])] = some (flat2 (xpow E t (-E.halfA))) := by
  have hI := h.I_sq
  simp only [xpow]
  arr_eval
  simp only [ph_unshift h.toLawful, Lean.Grind.Semiring.one_mul, h.ph_half, ph_neg_half h, ph_eq_one h.toLawful (show -E.halfA + E.halfA = 0 by grind)]
  mat_eq

/-- `YPowGate(t)` / `Ry(πt)` is emitted as `ry(pi*t)` = `u3(θ, 0, 0)` -/
theorem C19_emit_ry (E : Env A R) (h : LawfulQ E) (t : A) :
    oneQubit E [("ry", [t])] = some (flat2 (ypow E t (-E.halfA))) := by
  simp only [ypow]
  arr_eval
  simp only [ph_unshift h.toLawful, h.ph_zero, ph_eq_one h.toLawful (show (0 : A) + 0 = 0 by grind)]
  mat_eq

/-- `ZPowGate(t)` / `Rz(πt)` is emitted as `rz(pi*t)`, which `qelib1.inc` defines as `u1`: `diag(1, e^{iπt})`,
the documented `Z**t` (equal to `Rz` up to the global phase `e^{-iπt/2}`) -/
theorem C19_emit_rz (E : Env A R) (h : LawfulQ E) (t : A) :
    oneQubit E [("rz", [t])] = some (flat2 (zpow E t 0)) := by
  have hh := h.half_def
  simp only [zpow]
  arr_eval
  simp only [ph_mul_zero h.toLawful, h.cos_def, h.sin_def, Lean.Grind.Semiring.zero_mul, Lean.Grind.AddCommGroup.neg_zero,
    Lean.Grind.AddCommMonoid.zero_add, h.ph_zero]
  mat_eq

/-- `PhasedXPowGate(exponent=t, phase_exponent=p)` is emitted as `u3(pi*-t, pi*(p+½), pi*(−p−½))` (and `QasmUGate` prints its
three angles the same way): the documented matrix with the global phase `e^{-iπt/2}` taken out -/
theorem C19_emit_phasedx (E : Env A R) (h : LawfulQ E) (t p : A) :
    oneQubit E [("u3", [-t, p + E.halfA, -p - E.halfA])] = some (flat2 (phasedx E t p (-E.halfA))) := by
  have hI := h.I_sq
  have hp := ph_neg_mul h.toLawful p
  have hg := ph_neg_mul h.toLawful (t * E.halfA)
  simp only [phasedx]
  arr_eval
  simp only [h.cos_def, h.sin_def, h.ph_add, ph_sub h.toLawful, h.ph_half, ph_neg_half h, Lean.Grind.Ring.neg_mul, Lean.Grind.Ring.mul_neg,
    Lean.Grind.AddCommGroup.neg_neg]
  mat_eq

/-- `HPowGate(t)` is emitted as `ry(pi*0.25); rx(pi*t); ry(pi*-0.25)`: the documented `H**t` with the global phase
`e^{-iπt/2}` taken out.  The three lines denote the three factors of `HPowGate._decompose_` at global shift `−½` (what `C19_emit_ry`
and `C19_emit_rx` say of single lines), so by `decompose_hpow_shift` both sides are the same product. -/
theorem C19_emit_hpow (E : Env A R) (h : LawfulQ8 E) (t : A) :
    oneQubit E [("ry", [E.halfA * E.halfA]), ("rx", [t]), ("ry", [-(E.halfA * E.halfA)])]
      = some (flat2 (hpow E t (-E.halfA))) := by
  have hI := h.I_sq
  rw [← decompose_hpow_shift E h t (-E.halfA) (-E.halfA)]
  simp only [xpow, ypow]
  mat_eval
  arr_eval
  simp only [ph_unshift h.toLawful, Lean.Grind.Semiring.one_mul, h.ph_half, ph_neg_half h.toLawfulQ, h.ph_zero,
    ph_eq_one h.toLawful (show -E.halfA + E.halfA = 0 by grind), ph_eq_one h.toLawful (show (0 : A) + 0 = 0 by grind)]
  mat_eq

/-- the `u2` spellings `PhasedXPowGate` uses at exponent `+½` … -/
theorem C19_emit_phasedx_half (E : Env A R) (h : LawfulQ E) (p : A) :
    oneQubit E [("u2", [p - E.halfA, -p + E.halfA])] = some (flat2 (phasedx E E.halfA p (-E.halfA))) := by
  have hI := h.I_sq
  have hp := ph_neg_mul h.toLawful p
  have hg := ph_neg_mul h.toLawful (E.halfA * E.halfA)
  simp only [phasedx]
  arr_eval
  simp only [h.ph_add, ph_sub h.toLawful, h.ph_half, ph_neg_half h, Lean.Grind.Semiring.one_mul, Lean.Grind.Ring.mul_neg]
  mat_eq

/-- … and at exponent `−½`: `u2(φ, λ)` is `u3(π/2, φ, λ)`, the spelling of `C19_emit_phasedx` at `t = −½` -/
theorem C19_emit_phasedx_neg_half (E : Env A R) (h : LawfulQ E) (p : A) :
    oneQubit E [("u2", [p + E.halfA, -p - E.halfA])] = some (flat2 (phasedx E (-E.halfA) p (-E.halfA))) := by
  rw [← C19_emit_phasedx E h (-E.halfA) p, show - -E.halfA = 1 * E.halfA by grind]
  rfl

/-- `QasmUGate(θ, φ, λ)`: the decomposition Cirq computes its unitary from — `Rz(πλ)`, then `Ry(πθ)`, then `Rz(πφ)`, times the
global phase `e^{iπ(φ+λ)/2}` — is the `U(θ,φ,λ)` of the OpenQASM specification, so the `u3(...)` line it prints means the
same operator with the same global phase -/
theorem C19_qasm_u_gate (E : Env A R) (h : LawfulQ E) (θ φ lam : A) :
    letI := halfTurns E
    scale2 (E.ph ((φ + lam) * E.halfA))
      (mul2 (flat2 (zpow E φ (-E.halfA))) (mul2 (flat2 (ypow E θ (-E.halfA))) (flat2 (zpow E lam (-E.halfA)))))
      = uMatrix (envTrig E) θ φ lam := by
  have h4 : E.ph ((φ + lam) * E.halfA) = E.ph (φ * E.halfA) * E.ph (lam * E.halfA) := (ph_mul_eq h.toLawful (by grind)).symm
  have h5 := ph_neg_mul h.toLawful (φ * E.halfA)
  have h6 := ph_neg_mul h.toLawful (lam * E.halfA)
  have h7 := ph_half_sq h.toLawful φ
  have h8 := ph_half_sq h.toLawful lam
  simp only [zpow, ypow]
  arr_eval
  simp only [ph_unshift h.toLawful, h4, h.ph_add, Lean.Grind.Ring.mul_neg]
  mat_eq

end CirqVerif.Qasm
