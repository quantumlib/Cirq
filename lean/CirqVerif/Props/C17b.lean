import CirqVerif.Spec.Vendor
import CirqVerif.Proofs.GateMat
/-!
# C17 — the IonQ QIS gates the serializer writes denote the documented Cirq gates, for every exponent

The serializer writes `XPowGate(t)` as `{"gate": "rx", "rotation": π t}` (and `ry`, `rz`, `xx`, `yy`, `zz` likewise).  With the
vendor's gate definitions (`qisMatrix`, Spec/Vendor) evaluated symbolically at a rotation of `t` half turns and the documented Cirq
matrices of Spec/GateDocs, each rule is the identity "vendor gate = Cirq gate with global shift −½" — for every exponent, over any
commutative ring with a lawful phase map (ℂ: NonVacuity/ComplexModel.lean).  The `rule` stream of the C17 harness checks that the
serializer writes exactly these gate names and rotations.
-/
namespace CirqVerif.Vendor
open GateDocs Qasm
variable {A R : Type} [Lean.Grind.CommRing A] [Lean.Grind.CommRing R]

def flat (m : M R) : Array R := (m.flatten).toArray

/-- the QIS gate with its `rotation` given in half turns (`rotation = π·t` in the payload) -/
def qisHalfTurns (E : Env A R) (name : String) (t : A) : Option (Array R) :=
  letI := halfTurns E
  qisMatrix (envTrig E) E.I name t

macro "qis_eval" : tactic => `(tactic|
  simp only [qisHalfTurns, qisMatrix, envTrig, flat, smul, diag4, List.map_cons, List.map_nil, List.flatten_cons, List.flatten_nil,
    List.cons_append, List.nil_append, List.append_nil])

theorem C17_rule_rx (E : Env A R) (h : Lawful E) (t : A) :
    qisHalfTurns E "rx" t = some (flat (xpow E t (-E.halfA))) := by
  simp only [xpow, ph_unshift h]
  qis_eval
  mat_eq

theorem C17_rule_ry (E : Env A R) (h : Lawful E) (t : A) :
    qisHalfTurns E "ry" t = some (flat (ypow E t (-E.halfA))) := by
  simp only [ypow, ph_unshift h]
  qis_eval
  mat_eq

/-- `ZPowGate(t)` → `rz(πt)`: `diag(e^{-iπt/2}, e^{iπt/2})` is `Z**t` with global shift −½ -/
theorem C17_rule_rz (E : Env A R) (h : Lawful E) (t : A) :
    qisHalfTurns E "rz" t = some (flat (zpow E t (-E.halfA))) := by
  have h2 := ph_neg_half_mul_ph h t
  -- `mul_neg`: the shift's `ph (t * -½)` becomes the vendor's `ph (-(t * ½))`
  simp only [zpow, Lean.Grind.Ring.mul_neg]
  qis_eval
  mat_eq

/-- `XXPowGate(t)` → `xx(πt)` = `e^{-iπt XX/2}` = `XX**t` with global shift −½ -/
theorem C17_rule_xx (E : Env A R) (h : Lawful E) (t : A) :
    qisHalfTurns E "xx" t = some (flat (xxpow E t (-E.halfA))) := by
  have h1 := ph_neg_mul h (t * E.halfA)
  simp only [xxpow, Lean.Grind.Ring.mul_neg]
  qis_eval
  mat_eq

theorem C17_rule_yy (E : Env A R) (h : Lawful E) (t : A) :
    qisHalfTurns E "yy" t = some (flat (yypow E t (-E.halfA))) := by
  have h1 := ph_neg_mul h (t * E.halfA)
  simp only [yypow, Lean.Grind.Ring.mul_neg]
  qis_eval
  mat_eq

theorem C17_rule_zz (E : Env A R) (h : Lawful E) (t : A) :
    qisHalfTurns E "zz" t = some (flat (zzpow E t (-E.halfA))) := by
  have h2 := ph_neg_half_mul_ph h t
  simp only [zzpow, Lean.Grind.Ring.mul_neg]
  qis_eval
  mat_eq

end CirqVerif.Vendor
