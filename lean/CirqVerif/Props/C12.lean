import CirqVerif.Model.C12
/-!
# C12 — the unrolled form: what the scoping pass keeps, and which recorded measurement a condition is bound to
-/
namespace CirqVerif.C12

/-- the scoping pass only rewrites conditions and prefixes measurement keys: whatever does not look at the conditions of an
operation can be read off the raw operation -/
theorem scopePassS_map {β : Type} (g : FlatOp → β) (g' : RawOp → β)
    (h : ∀ (o : RawOp) (conds : List (Key × Int)),
      g ⟨o.id, o.qubits, o.mkey.map (fun k => k.prefixed o.scope), conds, o.inverted⟩ = g' o)
    (measured : List (Key × List Stamp)) (ops : List RawOp) : (scopePassS measured ops).map g = ops.map g' := by
  induction ops generalizing measured with
  | nil => rfl
  | cons o os ih => simp only [scopePassS, List.map_cons, ih, h]

/-- the scoping pass neither drops, duplicates nor reorders operations, and leaves qubits alone -/
theorem C12_scopePass_structure (measured : List (Key × List Stamp)) (ops : List RawOp) :
    (scopePassS measured ops).map (fun o => (o.id, o.qubits, o.inverted))
      = ops.map (fun o => (o.id, o.qubits, o.inverted)) :=
  scopePassS_map _ _ (fun _ _ => rfl) measured ops

/-- every measurement key of the unrolled form is the written key prefixed by the scopes it sits in -/
theorem C12_scopePass_mkeys (measured : List (Key × List Stamp)) (ops : List RawOp) :
    (scopePassS measured ops).map (·.mkey) = ops.map (fun o => o.mkey.map (fun k => k.prefixed o.scope)) :=
  scopePassS_map _ _ (fun _ _ => rfl) measured ops

theorem visibleAux_nil (len acc : Nat) (m : List Stamp) : visibleAux len acc m [] = true := by
  cases m <;> rfl

/-- conditions written at top level (outside every sub-circuit) see every recorded measurement, wherever it was made -/
theorem scopePassS_top (measured : List (Key × List Stamp)) (ops : List RawOp)
    (h : ∀ o ∈ ops, ∀ c ∈ o.conds, c.stamps = []) :
    scopePassS measured ops = scopePass (measured.map (·.1)) ops := by
  induction ops generalizing measured with
  | nil => rfl
  | cons o os ih =>
    have hconds : ∀ c ∈ o.conds,
        (measured.filter (fun m => visible m.1 m.2 c.stamps)).map (·.1) = measured.map (·.1) := by
      intro c hc
      rw [h o List.mem_cons_self c hc]
      simp only [visible, visibleAux_nil]
      rw [List.filter_eq_self.mpr (fun _ _ => rfl)]
    rw [scopePassS, scopePass, ih _ (fun o' ho' => h o' (List.mem_cons_of_mem _ ho'))]
    congr 2
    · exact List.map_congr_left (fun c hc => by rw [hconds c hc])
    · cases o.mkey <;> simp

/-- without sub-circuits (no instance stamps anywhere) lexical binding is binding against everything recorded so far -/
theorem C12_flat_is_dynamic (measured : List Key) (ops : List RawOp)
    (h : ∀ o ∈ ops, o.stamps = [] ∧ ∀ c ∈ o.conds, c.stamps = []) :
    scopePassS (measured.map (fun k => (k, []))) ops = scopePass measured ops := by
  rw [scopePassS_top _ _ (fun o ho => (h o ho).2), List.map_map]
  exact congrArg (scopePass · ops) (List.map_id _)

/-- a condition put on a whole sub-circuit is written outside of it: every operation the sub-circuit unrolls to carries it
first, with the scope and instance chain of the enclosing body (none at this level), so it is bound like a condition of a
plain operation standing where the sub-circuit stands -/
theorem C12_controlled_subcircuit (fuel : Nat) (pos : List Nat) (c : CircOp) (conds : List (Key × Int)) :
    rawNode fuel pos (.sub c conds)
      = (rawNode fuel pos (.sub c [])).map (fun o =>
          { o with conds := conds.map (fun (k, i) => ({ key := k, index := i } : RawCond)) ++ o.conds }) := by
  simp [rawNode]

theorem visibleAux_append (len acc : Nat) (common m c : List Stamp) :
    visibleAux len acc (common ++ m) (common ++ c) = visibleAux len (acc + (common.map (·.2.2)).sum) m c := by
  induction common generalizing acc with
  | nil => simp
  | cons x xs ih => simp [visibleAux, ih, Nat.add_assoc]

/-- the shared instances only add up their scopes -/
theorem visible_append (mkey : Key) (common m c : List Stamp) :
    visible mkey (common ++ m) (common ++ c) = visibleAux mkey.path.length (common.map (·.2.2)).sum m c := by
  rw [visible, visibleAux_append, Nat.zero_add]

/-- where the two chains part: visible unless it is another iteration of the same loop, or the key has picked up scopes
beyond those of the shared instances -/
theorem visible_part {mkey : Key} {common : List Stamp} {a b : Stamp} {ra rb : List Stamp} (h : a ≠ b) :
    visible mkey (common ++ a :: ra) (common ++ b :: rb)
      = (a.1 != b.1 && decide (mkey.path.length ≤ (common.map (·.2.2)).sum)) := by
  rw [visible_append, visibleAux, if_neg h]
  by_cases hp : a.1 = b.1 <;> simp [hp]

/-- a measurement made in another iteration of an enclosing loop is not a binding candidate (the body of a loop is
scoped once per iteration, from what was recorded outside the loop) … -/
theorem C12_other_iteration_not_visible (mkey : Key) (common : List Stamp) (pos : List Nat) (i j si sj : Nat)
    (ra rb : List Stamp) (h : i ≠ j) :
    visible mkey (common ++ (pos, i, si) :: ra) (common ++ (pos, j, sj) :: rb) = false := by
  rw [visible_part (fun e => h (by cases e; rfl))]; simp

/-- … nor is one made inside a sibling sub-circuit whose key path is longer than the scope path of the body the two
sub-circuits stand in — the sibling has repetition ids or a parent path … -/
theorem C12_scoped_sibling_not_visible (mkey : Key) (common : List Stamp) (a b : Stamp) (ra rb : List Stamp)
    (h : a.1 ≠ b.1) (hlen : (common.map (·.2.2)).sum < mkey.path.length) :
    visible mkey (common ++ a :: ra) (common ++ b :: rb) = false := by
  rw [visible_part (fun e => h (by rw [e]))]; simp; omega

/-- … whereas one made inside an earlier sibling that adds no scope of its own is (`len(k.path) <= len(path)` lets
it through) … -/
theorem C12_unscoped_sibling_visible (mkey : Key) (common : List Stamp) (a b : Stamp) (ra rb : List Stamp)
    (h : a.1 ≠ b.1) (hlen : mkey.path.length ≤ (common.map (·.2.2)).sum) :
    visible mkey (common ++ a :: ra) (common ++ b :: rb) = true := by
  rw [visible_part (fun e => h (by rw [e]))]; simp [h, hlen]

/-- … and so are the measurements made directly in the body of an enclosing instance (or at top level) under a key
whose path is the scope path of that body. -/
theorem C12_enclosing_visible (mkey : Key) (outer inner : List Stamp)
    (hlen : mkey.path.length ≤ (outer.map (·.2.2)).sum) : visible mkey outer (outer ++ inner) = true := by
  have := visible_append mkey outer [] inner
  rw [List.append_nil] at this
  rw [this]; cases inner <;> simp [visibleAux, hlen]

/-- a condition standing in the same body as an (earlier) sub-circuit sees everything that sub-circuit records -/
theorem C12_same_body_visible (mkey : Key) (outer inner : List Stamp) : visible mkey (outer ++ inner) outer = true := by
  have := visible_append mkey outer inner []
  rw [List.append_nil] at this
  rw [this, visibleAux_nil]

/-- a condition binds to the innermost enclosing scope (`i` levels up) in which its key has been measured -/
theorem bindCond_eq (scope : List String) (measured : List Key) (k : Key) (i : Nat) (hi : i ≤ scope.length)
    (hin : measured.contains (k.prefixed (scope.take (scope.length - i))) = true)
    (hout : ∀ j < i, measured.contains (k.prefixed (scope.take (scope.length - j))) = false) :
    bindCond scope measured k = k.prefixed (scope.take (scope.length - i)) := by
  rw [bindCond, List.find?_eq_some_iff_getElem.mpr
    ⟨hin, i, by simp; omega, by simp, fun j hj => by simpa using hout j hj⟩]
  rfl

/-- **A condition refers to the measurement it is scoped to**: if the key has been measured in the innermost
enclosing scope, the condition binds to that measurement … -/
theorem C12_bind_innermost (scope : List String) (measured : List Key) (k : Key)
    (h : measured.contains (k.prefixed scope) = true) :
    bindCond scope measured k = k.prefixed scope := by
  simpa using bindCond_eq scope measured k 0 (Nat.zero_le _) (by simpa using h) (fun _ h => absurd h (Nat.not_lt_zero _))

/-- … and if it has not been measured in any enclosing scope the condition is left referring to the
unscoped (external) key. -/
theorem C12_bind_external (scope : List String) (measured : List Key) (k : Key)
    (h : ∀ i ≤ scope.length, measured.contains (k.prefixed (scope.take (scope.length - i))) = false) :
    bindCond scope measured k = k := by
  rw [bindCond, List.find?_eq_none.mpr]
  · rfl
  · simp only [List.mem_map, List.mem_range]
    rintro _ ⟨i, hi, rfl⟩
    simpa using h i (by omega)

/-- zero repetitions unroll to nothing; the unrolled body is repeated |repetitions| times otherwise
(here: without repetition ids) -/
theorem C12_reps_zero (fuel : Nat) (pos : List Nat) (body : List (List Node)) (qmap : List (Nat × Nat)) (kmap : List (String × String))
    (repIds : Option (List String)) (pp : List String) :
    rawCO (fuel + 1) pos (.mk body 0 qmap kmap repIds pp) = [] := by
  simp [rawCO]

theorem C12_reps_length (fuel : Nat) (pos : List Nat) (body : List (List Node)) (reps : Int) (hr : reps ≠ 0)
    (qmap : List (Nat × Nat)) (kmap : List (String × String)) (pp : List String) :
    (rawCO (fuel + 1) pos (.mk body reps qmap kmap none pp)).length
      = reps.natAbs * ((body.flatten.zipIdx).flatMap (fun (n, i) => rawNode fuel (pos ++ [i]) n)).length := by
  simp only [rawCO, hr, if_false, List.length_flatMap, List.length_map]
  split <;> simp [List.map_const', List.sum_replicate_nat]

/-- qubit maps compose: mapping with `m₁` and then with `m₂` is mapping once with the composition -/
theorem C12_qubit_maps_compose (m₁ m₂ : List (Nat × Nat)) (qs : List Nat) :
    (qs.map (assocD m₁)).map (assocD m₂) = qs.map (fun q => assocD m₂ (assocD m₁ q)) := by
  simp

end CirqVerif.C12
