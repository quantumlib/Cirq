import CirqVerif.Model.C20
/-!
# C20 — invariants over all completion orders (`Collector`) and all fault sequences (Quantum Engine stream client)
-/
namespace CirqVerif.C20

def tags (js : List Job) : List Nat := js.map (·.tag)

/-- all job tags the collector knows of; `Inv.nodup` says they are distinct (the jobs handed out by `next_job` are distinct jobs) -/
def allTags (s : CState) : List Nat := s.delivered ++ tags s.running ++ tags s.queued ++ tags s.source.flatten

structure Inv (conc : Nat) (s : CState) : Prop where
  bound : s.running.length ≤ conc
  ledger : s.started.Perm (s.delivered ++ tags s.running)
  nodup : (allTags s).Nodup

/-- `Inv` looks only at these -/
theorem Inv.congr {conc : Nat} {s s' : CState} (h : Inv conc s) (hr : s'.running = s.running)
    (hs : s'.started = s.started) (hd : s'.delivered = s.delivered) (ht : allTags s' = allTags s) : Inv conc s' :=
  ⟨hr ▸ h.bound, by rw [hs, hd, hr]; exact h.ledger, ht ▸ h.nodup⟩

theorem Inv.askWork {conc : Nat} {s : CState} (h : Inv conc s) : Inv conc (askWork s).1 := by
  fun_cases C20.askWork s with
  | case1 | case3 => exact h
  | case2 hq js rest hs =>
    -- the next batch moves from the source to the (empty) queue
    exact h.congr rfl rfl rfl (by simp [allTags, List.isEmpty_iff.mp hq, hs, tags])

theorem Inv.startJob {conc : Nat} {s : CState} {j : Job} {q : List Job} (h : Inv conc s) (hq : s.queued = j :: q)
    (hlt : s.running.length < conc) : Inv conc (startJob s j q) := by
  refine ⟨?_, ?_, ?_⟩
  · simpa [C20.startJob] using Nat.succ_le_of_lt hlt
  · simpa [C20.startJob, tags, ← List.append_assoc] using List.Perm.append_right [j.tag] h.ledger
  · -- the job goes from the head of the queue to the end of the running jobs: the same list of tags
    have e : allTags (C20.startJob s j q) = allTags s := by simp [allTags, C20.startJob, hq, tags]
    exact e ▸ h.nodup

theorem askWork_running (s : CState) : (askWork s).1.running = s.running := by
  fun_cases askWork s <;> rfl

theorem Inv.fill {conc : Nat} (fuel : Nat) {s : CState} : Inv conc s → Inv conc (fill conc fuel s).1 := by
  fun_induction C20.fill conc fuel s with
  -- out of fuel, or no budget / no free slot: nothing happens; no job to start: only `askWork`; else a job starts and the loop goes on
  | case1 | case4 => exact id
  | case2 fuel s _ _ => exact Inv.askWork
  | case3 fuel s hcond j q hq r ih =>
    rw [Bool.and_eq_true, decide_eq_true_eq] at hcond
    exact fun h => ih (h.askWork.startJob hq (askWork_running s ▸ hcond.2))

theorem Inv.settle {conc : Nat} {s : CState} (h : Inv conc s) : Inv conc (settle conc s).1 := by
  fun_cases C20.settle conc s with
  | case1 => exact (h.fill _).congr rfl rfl rfl rfl
  | case2 => exact h.fill _

/-- states reachable by any order of (successful) completions -/
inductive Reach (conc : Nat) (budget : Option Int) (source : List (List Job)) : CState → Prop where
  | init : Reach conc budget source (initC conc budget source).1
  | step (s s' : CState) (tag : Nat) (evs : List Ev) :
      Reach conc budget source s → complete conc s tag = some (s', evs) → Reach conc budget source s'

theorem Inv.nodup_delivered {conc : Nat} {s : CState} (h : Inv conc s) : s.delivered.Nodup :=
  h.nodup.sublist (by simp [allTags, List.append_assoc])

theorem Inv.nodup_running {conc : Nat} {s : CState} (h : Inv conc s) : (tags s.running).Nodup :=
  h.nodup.sublist (by simp only [allTags, List.append_assoc]; exact (List.sublist_append_left _ _).trans (List.sublist_append_right _ _))

theorem tags_filter_erase (l : List Job) (j : Job) (hj : j ∈ l) (hn : (tags l).Nodup) :
    (j.tag :: tags (l.filter (· != j))).Perm (tags l) := by
  have hl : l.Nodup := List.Pairwise.of_map Job.tag (fun _ _ h e => h (e ▸ rfl)) hn
  rw [← hl.erase_eq_filter]
  exact ((List.perm_cons_erase hj).map Job.tag).symm

theorem Inv.deliver {conc : Nat} {s : CState} {j : Job} (h : Inv conc s) (hj : j ∈ s.running) :
    Inv conc { s with running := s.running.filter (· != j), delivered := s.delivered ++ [j.tag] } := by
  have hperm := tags_filter_erase s.running j hj h.nodup_running
  refine ⟨Nat.le_trans (List.length_filter_le _ _) h.bound, ?_, ?_⟩
  · refine h.ledger.trans ((List.Perm.append_left _ hperm.symm).trans ?_)
    simp
  · refine (List.Perm.nodup_iff ?_).mpr h.nodup
    simp only [allTags, List.append_assoc]
    exact List.Perm.append_left _ (List.Perm.append_right _ hperm)

theorem Inv.complete {conc : Nat} {s s' : CState} {tag : Nat} {evs : List Ev} (h : Inv conc s) :
    complete conc s tag = some (s', evs) → Inv conc s' := by
  fun_cases C20.complete conc s tag with
  | case1 | case2 => rintro ⟨⟩
  | case3 _ j hj =>
    rintro ⟨⟩
    obtain rfl : j.tag = tag := by simpa using List.find?_some hj
    exact (h.deliver (List.mem_of_find?_eq_some hj)).settle

/-- **Collector invariants for every completion order**: never more than `concurrency` jobs in flight; every
started job is delivered or still running; no job is known twice (so no result is delivered twice). -/
theorem C20_collector_invariants (conc : Nat) (budget : Option Int) (source : List (List Job))
    (hsrc : (tags source.flatten).Nodup) (s : CState) (h : Reach conc budget source s) : Inv conc s := by
  induction h with
  | init =>
    exact Inv.settle ⟨Nat.zero_le _, List.Perm.refl _, by simpa [allTags, tags] using hsrc⟩
  | step s s' tag evs _ hc ih => exact ih.complete hc

/-- **Exactly once**: in every reachable state no result has been delivered twice, and when the collector has
halted (nothing running) the delivered jobs are exactly the started ones. -/
theorem C20_collector_exactly_once (conc : Nat) (budget : Option Int) (source : List (List Job))
    (hsrc : (tags source.flatten).Nodup) (s : CState) (h : Reach conc budget source s) :
    s.delivered.Nodup ∧ (s.running = [] → s.started.Perm s.delivered) := by
  have inv := C20_collector_invariants conc budget source hsrc s h
  exact ⟨inv.nodup_delivered, fun hr => by simpa [hr, tags] using inv.ledger⟩

/-- **Budget**: once the sample budget is used up no further job is started -/
theorem C20_collector_budget (conc fuel : Nat) (s : CState) (h : budgetLeft s = false) :
    fill conc fuel s = (s, []) := by
  cases fuel <;> simp [fill, h]

/-- the server has created the job exactly when it says it has one, and never a job without its program -/
def Server.OK (sv : Server) : Prop := (sv.jobsCreated = if sv.job then 1 else 0) ∧ (sv.job = true → sv.program = true)

theorem Server.OK.serve {sv : Server} (h : sv.OK) (r : Req) : (serve sv r).1.OK := by
  obtain ⟨p, j, n⟩ := sv
  cases p <;> cases j <;> cases r <;> simp_all [C20.serve, Server.OK]

theorem Server.OK.exchange (table : Code → Req → Option Req) {c : Client} (h : c.server.OK) (f : Fault) :
    (exchange table c f).server.OK := by
  fun_cases C20.exchange table c f with
  -- fatal error, break before the request arrives, or the client has stopped: the server is as it was
  | case1 | case2 | case7 => exact h
  -- break after the request was served
  | case3 req => exact h.serve req
  -- no fault: the request is served, whatever the reply and the retry table say
  | case4 req _ _ _ e | case5 req _ _ _ _ _ _ e | case6 req _ _ _ _ _ e =>
    have := h.serve req
    rwa [show C20.serve c.server req = _ from e] at this

theorem Server.OK.run (table : Code → Req → Option Req) (faults : List Fault) {c : Client} (h : c.server.OK) :
    (faults.foldl (C20.exchange table) c).server.OK := by
  induction faults generalizing c with
  | nil => exact h
  | cons f fs ih => exact ih (h.exchange table f)

/-- **The job is created at most once**, whatever the sequence of stream breaks (before or after the server
processed a request), server replies and retries — and whichever retry table the client uses. -/
theorem C20_job_created_at_most_once (table : Code → Req → Option Req) (faults : List Fault) (p : Bool) :
    (runClient table { program := p, job := false, jobsCreated := 0 } faults).server.jobsCreated ≤ 1 := by
  have h0 : Server.OK { program := p, job := false, jobsCreated := 0 } := ⟨rfl, nofun⟩
  have := (h0.run table faults (c := Client.mk _ (.running .createProgramAndJob) [])).1
  unfold runClient
  split at this <;> omega

/-- **The retry table is total on what the server can answer**: no reply of the model server to any request
makes the client raise `StreamError` (so only non-retryable errors surface). -/
theorem C20_retry_table_total (sv : Server) (r : Req) (c : Code) (h : (serve sv r).2 = .error c) :
    retryTable c r ≠ none := by
  obtain ⟨p, j, n⟩ := sv
  cases p <;> cases j <;> cases r <;> simp [serve] at h <;> subst h <;> decide

/-- **Convergence**: from any request in flight and any server state, three fault-free exchanges return the
result; together with `C20_job_created_at_most_once` the job runs once and its result is returned. -/
theorem C20_client_converges (p j : Bool) (n : Nat) (r : Req) (hj : j = true → p = true) :
    ([Fault.none, Fault.none, Fault.none].foldl (exchange retryTable)
      { server := { program := p, job := j, jobsCreated := n }, state := .running r }).state = .done := by
  cases p <;> cases j <;> cases r <;> simp_all [exchange, serve, retryTable]

end CirqVerif.C20
