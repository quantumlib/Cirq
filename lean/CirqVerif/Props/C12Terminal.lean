import CirqVerif.Model.C12Terminal
/-!
# C12 — terminal measurements: two repetitions decide

The implementation answers `are_all_measurements_terminal` / `are_any_measurements_terminal` (and through them `has_unitary`,
`Circuit.unitary` and the simulators' choice of the sampling fast path) on the wrapped circuit by flattening every
sub-circuit operation, repeating a body at most twice.  `C12_all_terminal_two_repetitions` /
`C12_any_terminal_two_repetitions` say that this loses nothing: for two or more repetitions the answers do not depend on
the count; `C12_terminal_zero_repetitions`: a body that is not run does not count; one repetition is not enough.
`C12_instances_repeated` counts the records of a key in a repeated body.
-/
namespace CirqVerif.C12

variable {α : Type}

/-- every operation of `l` with its answer to "is it followed, in `l ++ tail`, only by operations on other qubits?";
`allTerm` asks for all and `anyTerm` for some of the matching entries of this one list -/
def termFlags (qs : α → List Nat) : List α → List α → List (α × Bool)
  | [], _ => []
  | o :: rest, tail => (o, (rest ++ tail).all (disj qs o)) :: termFlags qs rest tail

theorem allTerm_eq (qs : α → List Nat) (m : α → Bool) (l t : List α) :
    allTerm qs m l t = (termFlags qs l t).all (fun p => !m p.1 || p.2) := by
  induction l with
  | nil => rfl
  | cons o rest ih => simp only [allTerm, termFlags, List.all_cons, ih]

theorem anyTerm_eq (qs : α → List Nat) (m : α → Bool) (l t : List α) :
    anyTerm qs m l t = (termFlags qs l t).any (fun p => m p.1 && p.2) := by
  induction l with
  | nil => rfl
  | cons o rest ih => simp only [anyTerm, termFlags, List.any_cons, ih]

theorem termFlags_append (qs : α → List Nat) (a b t : List α) :
    termFlags qs (a ++ b) t = termFlags qs a (b ++ t) ++ termFlags qs b t := by
  induction a with
  | nil => rfl
  | cons o rest ih => simp only [List.cons_append, termFlags, ih, List.append_assoc]

/-- what follows matters only as a set -/
theorem termFlags_tail_congr (qs : α → List Nat) (l : List α) {t t' : List α} (h : ∀ p, p ∈ t ↔ p ∈ t') :
    termFlags qs l t = termFlags qs l t' := by
  induction l with
  | nil => rfl
  | cons o rest ih =>
    have : (rest ++ t).all (disj qs o) = (rest ++ t').all (disj qs o) := by
      rw [Bool.eq_iff_iff]; simp only [List.all_eq_true, List.mem_append, h]
    simp only [termFlags, this, ih]

/-- an operation is seen only through its qubits -/
theorem termFlags_map {β : Type} (qs : α → List Nat) (qs' : β → List Nat) (f : α → β) (hq : ∀ a, qs' (f a) = qs a)
    (l t : List α) : termFlags qs' (l.map f) (t.map f) = (termFlags qs l t).map (fun p => (f p.1, p.2)) := by
  induction l with
  | nil => rfl
  | cons o rest ih =>
    have hd : ∀ p, disj qs' (f o) (f p) = disj qs o p := fun p => by simp only [disj, hq]
    simp only [List.map_cons, termFlags, ih, ← List.map_append, List.all_map, Function.comp_def, hd]

/-- the questions see an operation only through its qubits and whether it matches -/
theorem allTerm_view (qs : α → List Nat) (m : α → Bool) (l t : List α) :
    allTerm qs m l t = allTerm Prod.fst Prod.snd (l.map fun o => (qs o, m o)) (t.map fun o => (qs o, m o)) := by
  simp only [allTerm_eq, termFlags_map qs Prod.fst (fun o => (qs o, m o)) (fun _ => rfl), List.all_map, Function.comp_def]

theorem anyTerm_view (qs : α → List Nat) (m : α → Bool) (l t : List α) :
    anyTerm qs m l t = anyTerm Prod.fst Prod.snd (l.map fun o => (qs o, m o)) (t.map fun o => (qs o, m o)) := by
  simp only [anyTerm_eq, termFlags_map qs Prod.fst (fun o => (qs o, m o)) (fun _ => rfl), List.any_map, Function.comp_def]

/-- a block all of whose operations occur again later may be doubled: both copies are followed by the same set, so the
second copy only repeats the entries of the first -/
theorem mem_termFlags_double (qs : α → List Nat) (pre b y t : List α) (hb : ∀ p ∈ b, p ∈ y) (x : α × Bool) :
    x ∈ termFlags qs (pre ++ (b ++ (b ++ y))) t ↔ x ∈ termFlags qs (pre ++ (b ++ y)) t := by
  have hy : ∀ p, p ∈ b ++ (y ++ t) ↔ p ∈ y ++ t := fun p => by
    simp only [List.mem_append]; exact ⟨fun h => h.elim (fun h => Or.inl (hb p h)) id, Or.inr⟩
  have hpre : ∀ p, p ∈ b ++ (b ++ (y ++ t)) ↔ p ∈ b ++ (y ++ t) := fun p => by
    simp only [List.mem_append, or_self_left]
  simp only [termFlags_append, List.append_assoc, termFlags_tail_congr qs pre hpre, termFlags_tail_congr qs b hy,
    List.mem_append, or_self_left]

theorem mem_termFlags_two_repetitions (qs : α → List Nat) (pre b post t : List α) (n : Nat) (x : α × Bool) :
    x ∈ termFlags qs (pre ++ rep (n + 2) b ++ post) t ↔ x ∈ termFlags qs (pre ++ rep 2 b ++ post) t := by
  induction n with
  | zero => rfl
  | succ n ih =>
    rw [← ih]
    simp only [rep, List.append_assoc]
    exact mem_termFlags_double qs pre b _ t (fun p hp => List.mem_append_left _ hp) x

/-- **two repetitions decide `all terminal`**: between any operations before and after, a body repeated `n + 2` times
answers as the body repeated twice -/
theorem C12_all_terminal_two_repetitions (qs : α → List Nat) (m : α → Bool) (pre b post : List α) (n : Nat) :
    allTerm qs m (pre ++ rep (n + 2) b ++ post) [] = allTerm qs m (pre ++ rep 2 b ++ post) [] := by
  rw [allTerm_eq, allTerm_eq, Bool.eq_iff_iff]
  simp only [List.all_eq_true, mem_termFlags_two_repetitions]

/-- **two repetitions decide `any terminal`** -/
theorem C12_any_terminal_two_repetitions (qs : α → List Nat) (m : α → Bool) (pre b post : List α) (n : Nat) :
    anyTerm qs m (pre ++ rep (n + 2) b ++ post) [] = anyTerm qs m (pre ++ rep 2 b ++ post) [] := by
  rw [anyTerm_eq, anyTerm_eq, Bool.eq_iff_iff]
  simp only [List.any_eq_true, mem_termFlags_two_repetitions]

/-- a body that is repeated zero times does not take part in either question -/
theorem C12_terminal_zero_repetitions (qs : α → List Nat) (m : α → Bool) (pre b post : List α) :
    allTerm qs m (pre ++ rep 0 b ++ post) [] = allTerm qs m (pre ++ post) [] ∧
    anyTerm qs m (pre ++ rep 0 b ++ post) [] = anyTerm qs m (pre ++ post) [] := by
  simp [rep]

/-- one repetition is *not* enough in general: a measurement at the end of a body that starts with a gate on the same
qubit is terminal in one copy and not in two -/
example : allTerm (fun (o : Nat × Bool) => [o.1]) (·.2) (rep 1 [(0, false), (0, true)]) [] = true ∧
    allTerm (fun (o : Nat × Bool) => [o.1]) (·.2) (rep 2 [(0, false), (0, true)]) [] = false := by decide

theorem instances_append {κ : Type} [BEq κ] (keyOf : α → Option κ) (k : κ) (a b : List α) :
    instances keyOf k (a ++ b) = instances keyOf k a + instances keyOf k b := by
  simp [instances, List.filter_append]

/-- **a body repeated `n` times records each of its keys `n` times as often** (what `Sampler._get_measurement_shapes`
has to report for a sub-circuit operation without repetition ids) -/
theorem C12_instances_repeated (κ : Type) [BEq κ] (keyOf : α → Option κ) (k : κ) (b : List α) (n : Nat) :
    instances keyOf k (rep n b) = n * instances keyOf k b := by
  induction n with
  | zero => simp [rep, instances]
  | succ n ih => rw [rep, instances_append, ih, Nat.succ_mul, Nat.add_comm]

/-- a list produced in rounds that all look the same through `g`: that view once per round -/
theorem flatMap_map_const {ι α β : Type} (idx : List ι) (f : ι → List α) (g : α → β) (b : List β)
    (h : ∀ i, (f i).map g = b) : (idx.flatMap f).map g = rep idx.length b := by
  induction idx with
  | nil => rfl
  | cons i is ih => simp only [List.flatMap_cons, List.map_append, h, ih, List.length_cons, rep]

end CirqVerif.C12
