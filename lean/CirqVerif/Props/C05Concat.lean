import CirqVerif.Proofs.C05Concat
/-!
# C05 — `concat_ragged` keeps circuits well-formed and order-preserving, for all circuits and alignments

Theorems about the model of Model/C05Concat (tied to `Circuit.concat_ragged` / `FrozenCircuit.concat_ragged` by the `concat`
stream of the harness, which compares the moment layout exactly): every operation is kept exactly once; the result has the
documented number of moments; on every shared wire — qubit, measurement key or control key — the first circuit's operations stay
strictly before the second's; no moment gets two operations on one qubit; and the overlap is maximal.  The `C05_zip_*` theorems say
the like of `Circuit.zip` (moment-wise union after padding), where it does not raise.
-/
namespace CirqVerif.C05

/-- **Conservation**: folding two circuits together keeps every operation, exactly once -/
theorem C05_concat2_conserves (a : Align) (c1 c2 : Circuit) : (allOps (concat2 a c1 c2)).Perm (allOps c1 ++ allOps c2) := by
  unfold concat2
  refine (overlay_perm _ _).trans ?_
  rw [pad_allOps, pad_allOps]

/-- **Length**: `max(n1, n2, n1 + n2 − overlap)` moments -/
theorem C05_concat2_length (a : Align) (c1 c2 : Circuit) :
    (concat2 a c1 c2).length = max (max c1.length c2.length) (c1.length + c2.length - overlapTime c1 c2 a) := by
  simp only [concat2, overlay_length, pad_length]
  exact layout_length (Nat.le_trans (overlapTime_le_alignBound c1 c2 a) (alignBound_le_max c1.length c2.length a))

/-- **Order**: on every wire the two circuits share (a qubit, or a measurement / control key), everything of the first circuit
ends up in a strictly earlier moment than everything of the second.  Positions: moment `i` of `c1` lands at
`i + (s − n1)`, moment `j` of `c2` at `j + (n1 − s)` (truncated subtraction, `s` the overlap). -/
theorem C05_concat2_order (a : Align) (c1 c2 : Circuit) (i j : Nat) (m1 m2 : Moment) (w : Wire)
    (h1 : c1[i]? = some m1) (h2 : c2[j]? = some m2) (hw1 : w ∈ mWires m1) (hw2 : w ∈ mWires m2) :
    i + (overlapTime c1 c2 a - c1.length) < j + (c1.length - overlapTime c1 c2 a) := by
  have := overlapTime_le_collision c1 c2 a h1 h2 hw1 hw2
  omega

/-- **Well-formedness**: the moment-wise union never puts two operations on one qubit into a moment (so the `Moment + Moment`
of the implementation cannot raise) -/
theorem C05_concat2_wf (a : Align) (c1 c2 : Circuit) (h1 : circuitWF c1 = true) (h2 : circuitWF c2 = true) :
    circuitWF (concat2 a c1 c2) = true := by
  refine circuitWF_of_getD _ fun k => ?_
  simp only [concat2, overlay_getD]
  refine momentWF_append (getD_wf (by rwa [circuitWF_pad])) (getD_wf (by rwa [circuitWF_pad])) fun q hq1 hq2 => ?_
  obtain ⟨m1, hk1, hm1, hq1⟩ := mem_pad_getD hq1
  obtain ⟨m2, hk2, hm2, hq2⟩ := mem_pad_getD hq2
  have := C05_concat2_order a c1 c2 _ _ m1 m2 (0, q) hm1 hm2 (mem_mWires_of_qubit hq1) (mem_mWires_of_qubit hq2)
  omega

/-- the n-ary fold: all operations are kept … -/
theorem C05_concatRagged_conserves (a : Align) (cs : List Circuit) :
    (allOps (concatRagged a cs)).Perm (cs.flatMap allOps) := by
  cases cs with
  | nil => exact .refl _
  | cons c rest =>
    simp only [concatRagged, List.flatMap_cons]
    induction rest generalizing c with
    | nil => simp
    | cons d ds ih =>
      simp only [List.foldl_cons, List.flatMap_cons, ← List.append_assoc]
      exact (ih _).trans (List.Perm.append_right _ (C05_concat2_conserves a c d))

/-- … and every moment of the result is well-formed -/
theorem C05_concatRagged_wf (a : Align) (cs : List Circuit) (h : ∀ c ∈ cs, circuitWF c = true) :
    circuitWF (concatRagged a cs) = true := by
  cases cs with
  | nil => rfl
  | cons c rest =>
    obtain ⟨hc, hr⟩ := List.forall_mem_cons.mp h
    exact List.foldlRecOn (motive := (circuitWF · = true)) rest _ hc fun b hb d hd => C05_concat2_wf a b d hb (hr d hd)

/-- **Maximality**: the circuits are slid together as far as the alignment or some shared wire allows — either the overlap is
the alignment bound, or some wire used by moment `i` of `c1` and moment `j` of `c2` lands in adjacent moments -/
theorem C05_concat2_maximal (a : Align) (c1 c2 : Circuit) :
    overlapTime c1 c2 a = alignBound c1.length c2.length a
    ∨ ∃ w i j m1 m2, c1[i]? = some m1 ∧ c2[j]? = some m2 ∧ w ∈ mWires m1 ∧ w ∈ mWires m2
        ∧ overlapTime c1 c2 a + i + 1 = c1.length + j := by
  refine (foldl_min_spec _ _).1.imp id (fun h => ?_)
  obtain ⟨w, _, hc⟩ := List.mem_filterMap.mp h
  exact ⟨w, collision_spec hc⟩

/-- the premises are satisfiable and the overlap is a real one: `X(q0)` followed by `[Y(q1)], [Z(q0)]` overlaps by one moment -/
example : concat2 .left [[⟨1, [0], [], []⟩]] [[⟨2, [1], [], []⟩], [⟨3, [0], [], []⟩]]
    = [[⟨1, [0], [], []⟩, ⟨2, [1], [], []⟩], [⟨3, [0], [], []⟩]] := by decide

/-- a zip that succeeds is well-formed -/
theorem C05_zip_wf (a : Align) (cs : List Circuit) (r : Circuit) (h : zipCircuits a cs = .ok r)
    (ho : ∀ c ∈ cs, ∀ m ∈ c, ∀ o ∈ m, opWF o = true) : circuitWF r = true := by
  unfold zipCircuits at h
  refine circuitWF_iff.mpr fun m hm => ?_
  obtain ⟨k, _, hk⟩ := mem_of_mapM_ok h hm
  refine mkMoment_wf hk fun o hmem => ?_
  simp only [List.mem_flatMap, List.mem_map] at hmem
  obtain ⟨_, ⟨c, hc, rfl⟩, ho'⟩ := hmem
  have := mem_allOps_of_getD ho'
  rw [padTo_allOps] at this
  obtain ⟨m', hm', hom⟩ := List.mem_flatten.mp this
  exact ho c hc m' hm' o hom

/-- … and as long as the longest circuit -/
theorem C05_zip_length (a : Align) (cs : List Circuit) (r : Circuit) (h : zipCircuits a cs = .ok r) :
    r.length = (cs.map List.length).foldl max 0 := by
  unfold zipCircuits at h
  simpa using (congrArg List.length (mapM_ok h)).symm

example : (zipCircuits .right [[[⟨1, [0], [], []⟩]], [[⟨2, [1], [], []⟩], [⟨3, [1], [], []⟩]]]).toOption
    = some [[⟨2, [1], [], []⟩], [⟨1, [0], [], []⟩, ⟨3, [1], [], []⟩]] := by decide

example : (zipCircuits .left [[[⟨1, [0], [], []⟩]], [[⟨2, [0], [], []⟩]]]).toOption = none := by decide

/-- **`Circuit.zip` keeps every operation exactly once** -/
theorem C05_zip_conserves (a : Align) (cs : List Circuit) (r : Circuit) (h : zipCircuits a cs = .ok r) :
    (allOps r).Perm (cs.flatMap allOps) := by
  unfold zipCircuits at h
  generalize hn : (cs.map List.length).foldl max 0 = n at h
  have hlen : ∀ c ∈ cs, (padTo a n c).length = n := fun c hc =>
    padTo_length a n c (hn ▸ (foldl_max_ge id (cs.map List.length) 0).2 _ (List.mem_map_of_mem hc))
  obtain rfl := mapM_ok_eq_map (fun _ _ => mkMoment_ok) h
  -- moment `k` of the result is the union over the circuits; exchange the two unions
  rw [allOps, ← List.flatMap_def]
  refine (flatMap_swap_perm (List.range n) (cs.map (padTo a n)) (fun k c => c[k]?.getD [])).trans (.of_eq ?_)
  rw [List.flatMap_map, List.flatMap_def, List.flatMap_def]
  exact congrArg _ (List.map_congr_left fun c hc => (flatMap_getD_eq_allOps (hlen c hc)).trans (padTo_allOps a n c))

end CirqVerif.C05
