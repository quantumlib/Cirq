import CirqVerif.Props.C12TerminalLoop
/-!
# C12 / C18 — instances of a key recorded by a loop without repetition ids

The full key an operation records under (its written key prefixed by the scopes it sits in) does not depend on the
iteration when the loop has no repetition ids, so the unrolled loop records every key of its body once per repetition:
`n + 1` repetitions give `(n + 1) ×` the instances of one iteration (`C12_loop_instances`).  This is the count
`Sampler._get_measurement_shapes` has to report (`recordShapes`, Model/C12Terminal, is compared with the samplers on every
run).
-/
namespace CirqVerif.C12

/-- the keys one run of the body records, in the scope of the loop -/
def loopBodyKeys (fuel : Nat) (pos : List Nat) (body : List (List Node)) (kmap : List (String × String)) (pp : List String) :
    List (Option Key) :=
  ((body.flatten.zipIdx).flatMap (fun (n, i) => rawNode fuel (pos ++ [i]) n)).map
    (fun o => (o.mkey.map (Key.mapName kmap)).map (fun k => k.prefixed (pp ++ o.scope)))

theorem rawCO_keys (fuel : Nat) (pos : List Nat) (body : List (List Node)) (n : Nat) (qmap : List (Nat × Nat))
    (kmap : List (String × String)) (pp : List String) :
    (rawCO (fuel + 1) pos (.mk body ((n : Int) + 1) qmap kmap none pp)).map (fun o => o.mkey.map (fun k => k.prefixed o.scope))
      = rep (n + 1) (loopBodyKeys fuel pos body kmap pp) :=
  rawCO_loop_map _ _ fuel pos body n qmap kmap pp (fun o o' _ hm hs => by simp [hm, hs])

theorem instances_map {α : Type} (keyOf : α → Option Key) (k : Key) (l : List α) :
    instances keyOf k l = instances id k (l.map keyOf) := by
  simp [instances, List.filter_map, Function.comp_def]

/-- **a loop of `n + 1` repetitions without repetition ids records every key `(n + 1) ×` as often as one iteration** -/
theorem C12_loop_instances (fuel : Nat) (pos : List Nat) (body : List (List Node)) (n : Nat) (qmap : List (Nat × Nat))
    (kmap : List (String × String)) (pp : List String) (k : Key) (measured : List (Key × List Stamp)) :
    instances FlatOp.mkey k (scopePassS measured (rawCO (fuel + 1) pos (.mk body ((n : Int) + 1) qmap kmap none pp)))
      = (n + 1) * instances id k (loopBodyKeys fuel pos body kmap pp) := by
  rw [instances_map, C12_scopePass_mkeys, rawCO_keys, C12_instances_repeated]

end CirqVerif.C12
