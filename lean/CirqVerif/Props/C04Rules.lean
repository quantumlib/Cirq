import CirqVerif.Proofs.GateMat
/-!
# C04 — the decomposition rules of the gate library equal the documented matrices, for every parameter

`cirq.decompose_once(gate)` and `cirq.unitary(gate)` are two descriptions of one operation.  For the gate families
whose `_decompose_` is a fixed pattern of other library gates, the pattern is multiplied out here on the documented
matrices (Spec/GateDocs) — over any commutative ring with a lawful phase map (ℂ: NonVacuity/ComplexModel.lean), for
all exponents, phase exponents and global shifts — and shown to equal the documented matrix of the gate itself,
including the global phase.  `mul B A` is "first `A`, then `B`"; `kron` is big-endian (first qubit most significant).
The `decompose-rule` stream of the C04 harness checks that Cirq's `_decompose_` yields exactly these patterns.
-/
namespace CirqVerif.GateDocs
open CirqVerif.Qasm (LawfulQ LawfulQ8 ph_one ph_neg_half ph_neg_quarter)
variable {A R : Type} [Lean.Grind.CommRing A] [Lean.Grind.CommRing R]

/-- `PhasedXPowGate._decompose_`: `Z**-p`, then `XPowGate(t, s)`, then `Z**p` -/
theorem C04_decompose_phasedx (E : Env A R) (h : Lawful E) (t p s : A) :
    mul (zpow E p 0) (mul (xpow E t s) (zpow E (-p) 0)) = phasedx E t p s := by
  have hp := ph_neg_mul h p
  simp only [phasedx_eq h, xpow_eq h, smul, List.map_cons, List.map_nil, zpow_mul_zpow E h]
  mat_eq

/-- the conjugation rules `C04_decompose_cxpow`, `_xxpow`, `_yypow`, `_cypow` assume `LawfulQ8` but need `e^{iπ/2} = i` only: each is
proved under `LawfulQ` first -/
theorem decompose_cxpow (E : Env A R) (h : LawfulQ E) (t s : A) :
    mul (kron (eye 2) (ypow E E.halfA 0)) (mul (czpow E t s) (kron (eye 2) (ypow E (-E.halfA) 0))) = cxpow E t s := by
  have hI := h.I_sq; have hh := h.half_def
  simp only [cxpow, czpow, ypow_eq h.toLawful, xblock_eq h.toLawful, ph_mul_zero h.toLawful, h.ph_half, ph_neg_half h]
  mat_eval
  mat_eq

/-- `CXPowGate._decompose_`: `Y**-½` on the target, `CZPowGate(t, s)`, `Y**½` on the target -/
theorem C04_decompose_cxpow (E : Env A R) (h : LawfulQ8 E) (t s : A) :
    mul (kron (eye 2) (ypow E E.halfA 0)) (mul (czpow E t s) (kron (eye 2) (ypow E (-E.halfA) 0))) = cxpow E t s :=
  decompose_cxpow E h.toLawfulQ t s

/-- `ZZPowGate._decompose_`: `Z**t` on both qubits, then `CZPowGate(-2t, -s/2)` -/
theorem C04_decompose_zzpow (E : Env A R) (h : Lawful E) (t s : A) :
    mul (czpow E (-(t + t)) (-(s * E.halfA))) (kron (zpow E t 0) (zpow E t 0)) = zzpow E t s := by
  have h2 : E.ph (-(t + t) * -(s * E.halfA)) = E.ph (t * s) := by
    congr 1; have := h.halfA_def; grind
  have h3 : E.ph (-(t + t)) * (E.ph t * E.ph t) = 1 := by
    rw [ph_mul_eq h rfl]; exact ph_mul_eq_one h (by grind)
  simp only [czpow, zpow, zzpow, ph_mul_zero h, h2]
  mat_eval
  mat_eq

theorem decompose_xxpow (E : Env A R) (h : LawfulQ E) (t s : A) :
    mul (kron (ypow E E.halfA 0) (ypow E E.halfA 0)) (mul (zzpow E t s) (kron (ypow E (-E.halfA) 0) (ypow E (-E.halfA) 0)))
      = xxpow E t s := by
  have hI := h.I_sq; have hh := h.half_def
  simp only [xxpow_eq h.toLawful, zzpow, ypow_eq h.toLawful, ph_mul_zero h.toLawful, h.ph_half, ph_neg_half h]
  mat_eval
  mat_eq

/-- `XXPowGate._decompose_`: `Y**-½` on both qubits, `ZZPowGate(t, s)`, `Y**½` on both -/
theorem C04_decompose_xxpow (E : Env A R) (h : LawfulQ8 E) (t s : A) :
    mul (kron (ypow E E.halfA 0) (ypow E E.halfA 0)) (mul (zzpow E t s) (kron (ypow E (-E.halfA) 0) (ypow E (-E.halfA) 0)))
      = xxpow E t s :=
  decompose_xxpow E h.toLawfulQ t s

theorem decompose_yypow (E : Env A R) (h : LawfulQ E) (t s : A) :
    mul (kron (xpow E (-E.halfA) 0) (xpow E (-E.halfA) 0)) (mul (zzpow E t s) (kron (xpow E E.halfA 0) (xpow E E.halfA 0)))
      = yypow E t s := by
  have hI := h.I_sq; have hh := h.half_def
  simp only [yypow_eq h.toLawful, zzpow, xpow_eq h.toLawful, ph_mul_zero h.toLawful, h.ph_half, ph_neg_half h]
  mat_eval
  mat_eq

/-- `YYPowGate._decompose_`: `X**½` on both qubits, `ZZPowGate(t, s)`, `X**-½` on both -/
theorem C04_decompose_yypow (E : Env A R) (h : LawfulQ8 E) (t s : A) :
    mul (kron (xpow E (-E.halfA) 0) (xpow E (-E.halfA) 0)) (mul (zzpow E t s) (kron (xpow E E.halfA 0) (xpow E E.halfA 0)))
      = yypow E t s :=
  decompose_yypow E h.toLawfulQ t s

theorem cxpow_one (E : Env A R) (h : LawfulQ E) : cxpow E 1 0 = [[1, 0, 0, 0], [0, 1, 0, 0], [0, 0, 0, 1], [0, 0, 1, 0]] := by
  have hh := h.half_def
  simp only [cxpow, xblock_eq h.toLawful, ph_one h, ph_mul_zero h.toLawful]
  mat_eval
  mat_eq

theorem hpow_one (E : Env A R) (h : LawfulQ E) : hpow E 1 0 = [[E.isq2, E.isq2], [E.isq2, -E.isq2]] := by
  have hh := h.half_def
  simp only [hpow_eq h.toLawful, ph_one h, ph_mul_zero h.toLawful]
  mat_eval
  mat_eq

/-- `SwapPowGate._decompose_`: `CNOT(a, b)`, `CNotPowGate(t, s)(b, a)`, `CNOT(a, b)` -/
theorem C04_decompose_swappow (E : Env A R) (h : LawfulQ E) (t s : A) :
    mul (cxpow E 1 0) (mul (revq (cxpow E t s)) (cxpow E 1 0)) = swappow E t s := by
  simp only [cxpow_one E h]
  simp only [cxpow, swappow, xblock_eq h.toLawful]
  mat_eval

/-- `ISwapPowGate._decompose_`: `CNOT(a,b)`, `H(a)`, `CNOT(b,a)`, `ZPowGate(t/2, s)(a)`, `CNOT(b,a)`, `ZPowGate(-t/2, -s)(a)`, `H(a)`, `CNOT(a,b)` -/
theorem C04_decompose_iswappow (E : Env A R) (h : LawfulQ E) (t s : A) :
    mul (cxpow E 1 0) (mul (kron (hpow E 1 0) (eye 2)) (mul (kron (zpow E (-(t * E.halfA)) (-s)) (eye 2)) (mul (revq (cxpow E 1 0))
      (mul (kron (zpow E (t * E.halfA) s) (eye 2)) (mul (revq (cxpow E 1 0)) (mul (kron (hpow E 1 0) (eye 2)) (cxpow E 1 0)))))))
      = iswappow E t s := by
  have hI := h.I_sq; have hh := h.half_def; have hq := h.isq2_sq
  have hg := ph_neg_mul h.toLawful (t * E.halfA)
  have hr : E.ph (-(t * E.halfA) * -s) * E.ph (t * E.halfA * s) = E.ph (t * s) :=
    ph_mul_eq h.toLawful (by have := h.halfA_def; grind)
  simp only [cxpow_one E h, hpow_one E h, iswappow, zpow, h.cos_def, h.sin_def]
  mat_eval
  mat_eq

/-- `HPowGate._decompose_` (general exponent): `Y**¼`, `XPowGate(t, s)`, `Y**-¼` -/
theorem C04_decompose_hpow (E : Env A R) (h : LawfulQ8 E) (t s : A) :
    mul (ypow E (-(E.halfA * E.halfA)) 0) (mul (xpow E t s) (ypow E (E.halfA * E.halfA) 0)) = hpow E t s :=
  decompose_hpow_shift E h t s 0

/-- `HPowGate._decompose_` at exponent 1: `Y**½`, then `XPowGate(exponent=1, global_shift=s-¼)` -/
theorem C04_decompose_hpow_one (E : Env A R) (h : LawfulQ8 E) (s : A) :
    mul (xpow E 1 (s - E.halfA * E.halfA)) (ypow E E.halfA 0) = hpow E 1 s := by
  have hI := h.I_sq; have hh := h.half_def; have hq := h.isq2_sq
  have hs : E.ph (1 * (s - E.halfA * E.halfA)) = E.ph (1 * s) * (E.isq2 * (1 - E.I)) := by
    rw [← ph_neg_quarter h]; exact (ph_mul_eq h.toLawful (by grind)).symm
  simp only [hpow_eq h.toLawful, xpow_eq h.toLawful, ypow_eq h.toLawful, ph_mul_zero h.toLawful, h.ph_half, ph_one h.toLawfulQ, hs]
  mat_eval
  mat_eq

/-- `PhasedXZGate._decompose_`: `Z**-a`, `X**x`, `Z**(a+z)` -/
theorem C04_decompose_phasedxz (E : Env A R) (h : Lawful E) (x z a : A) :
    mul (zpow E (a + z) 0) (mul (xpow E x 0) (zpow E (-a) 0)) = phasedxz E x z a := by
  have ha := ph_neg_mul h a
  simp only [phasedxz_eq h, xpow_eq h, smul, List.map_cons, List.map_nil, ph_mul_zero h, zpow_mul_zpow E h, h.ph_add]
  mat_eq

/-- `PhasedISwapPowGate._decompose_`: `Z**p ⊗ Z**-p`, `ISwapPowGate(t)`, `Z**-p ⊗ Z**p` -/
theorem C04_decompose_phasediswap (E : Env A R) (h : Lawful E) (p t : A) (htwo : E.twoA = 1 + 1) :
    mul (kron (zpow E (-p) 0) (zpow E p 0)) (mul (iswappow E t 0) (kron (zpow E p 0) (zpow E (-p) 0))) = phasediswap E p t := by
  have h2 : E.ph (E.twoA * p) = E.ph p * E.ph p := (ph_mul_eq h (by grind)).symm
  have h3 : E.ph (-(E.twoA * p)) = E.ph (-p) * E.ph (-p) := (ph_mul_eq h (by grind)).symm
  have hp := ph_neg_mul h p
  simp only [phasediswap, iswappow, zpow, ph_mul_zero h, h2, h3]
  mat_eval
  mat_eq

/-- `FSimGate._decompose_`: `XXPowGate(a, -½)`, `YYPowGate(a, -½)`, `CZ**-b` where `a = θ/π`, `b = φ/π` are the half-turn counts of the
angles (hypotheses `hc`, `hs`, `hp` say so) -/
theorem C04_decompose_fsim (E : Env A R) (h : Lawful E) (θ φ a b : A)
    (hc : E.cos θ = E.cosπ a) (hs : E.sin θ = E.sinπ a) (hp : E.cis (-φ) = E.ph (-b)) :
    mul (czpow E (-b) 0) (mul (yypow E a (-E.halfA)) (xxpow E a (-E.halfA))) = fsim E θ φ := by
  have hI := h.I_sq; have hh := h.half_def
  have ha := ph_neg_mul h a
  have hr : E.ph (a * -E.halfA) * E.ph (a * -E.halfA) = E.ph (-a) := ph_mul_eq h (by have := h.halfA_def; grind)
  simp only [fsim, czpow, yypow_eq h, xxpow_eq h, hc, hs, hp, ph_mul_zero h, h.cos_def, h.sin_def]
  mat_eval
  mat_eq

/-- `CCXPowGate._decompose_`: `H` on the target, `CCZPowGate(t, s)`, `H` on the target -/
theorem C04_decompose_ccxpow (E : Env A R) (h : LawfulQ E) (t s : A) :
    mul (kron (eye 4) (hpow E 1 0)) (mul (cczpow E t s) (kron (eye 4) (hpow E 1 0))) = ccxpow E t s := by
  have hh := h.half_def; have hq := h.isq2_sq
  simp only [hpow_one E h, ccxpow, cczpow, xblock_eq h.toLawful]
  mat_eval
  mat_eq

/-- `CCZPowGate._decompose_` (line connectivity): with `p = T**t`: `p` on all three qubits, then four sweeps `CNOT(a,b), CNOT(b,c)`
separated by `p⁻¹(b), p(c)` / `p⁻¹(c)` / `p⁻¹(c)`, and the global phase `e^{iπts}` -/
theorem C04_decompose_cczpow (E : Env A R) (h : LawfulQ E) (t s : A) :
    let q := E.halfA * E.halfA
    let p : M R := zpow E (t * q) 0
    let pinv : M R := zpow E (-(t * q)) 0
    let I2 : M R := eye 2
    let sweep : M R := mul (kron I2 (cxpow E 1 0)) (kron (cxpow E 1 0) I2)
    smul (E.ph (t * s))
      (mul sweep (mul (kron (kron I2 I2) pinv) (mul sweep (mul (kron (kron I2 I2) pinv) (mul sweep
        (mul (kron (kron I2 pinv) p) (mul sweep (kron (kron p p) p))))))))
      = cczpow E t s := by
  intro q p pinv I2 sweep
  have h4 : E.ph (t * q) * E.ph (t * q) * (E.ph (t * q) * E.ph (t * q)) = E.ph t := by
    rw [ph_mul_eq h.toLawful (z := t * E.halfA) (by have := h.halfA_def; grind), ph_half_sq h.toLawful]
  have h5 := ph_neg_mul h.toLawful (t * q)
  simp only [sweep, p, pinv, I2, cxpow_one E h, zpow, cczpow, ph_mul_zero h.toLawful]
  mat_eval
  mat_eq

/-- `ControlledGate(XPowGate(t, s))` decomposes into `CNOT**t` and `Z**(t·s)` on the control: the global shift of the sub-gate is a
relative phase of the control -/
theorem C04_controlled_shift_x (E : Env A R) (h : Lawful E) (t s : A) :
    blockBottomRight 4 (xpow E t s) = mul (kron (zpow E (t * s) 0) (eye 2)) (cxpow E t 0) := by
  simp only [xpow_eq h, cxpow, zpow, xblock_eq h, ph_mul_zero h]
  mat_eval

/-- `ControlledGate(ZPowGate(t, s))` decomposes into `CZ**t` and `Z**(t·s)` on the control -/
theorem C04_controlled_shift_z (E : Env A R) (h : Lawful E) (t s : A) :
    blockBottomRight 4 (zpow E t s) = mul (kron (zpow E (t * s) 0) (eye 2)) (czpow E t 0) := by
  simp only [czpow, zpow, ph_mul_zero h]
  mat_eval

/-- `ControlledGate(CZPowGate(t, s))` decomposes into `CCZ**t` and `Z**(t·s)` on the (new) control -/
theorem C04_controlled_shift_cz (E : Env A R) (h : Lawful E) (t s : A) :
    blockBottomRight 8 (czpow E t s) = mul (kron (zpow E (t * s) 0) (eye 4)) (cczpow E t 0) := by
  simp only [czpow, cczpow, zpow, ph_mul_zero h]
  mat_eval

theorem decompose_cypow (E : Env2 A R) (h : LawfulQ E.toEnv) (t s : A) :
    mul (kron (eye 2) (xpow E.toEnv (-E.halfA) 0)) (mul (czpow E.toEnv t s) (kron (eye 2) (xpow E.toEnv E.halfA 0))) = cypow E t s := by
  have hI := h.I_sq; have hh := h.half_def
  have hc := ph_cos h.toLawful t; have hs := ph_sin h.toLawful t
  simp only [cypow, yblock, czpow, xpow_eq h.toLawful, ph_mul_zero h.toLawful, h.ph_half, ph_neg_half h]
  mat_eval
  mat_eq

/-- `CYPowGate._decompose_`: `X**½` on the target, `CZPowGate(t, s)`, `X**-½` on the target -/
theorem C04_decompose_cypow (E : Env2 A R) (h : LawfulQ8 E.toEnv) (t s : A) :
    mul (kron (eye 2) (xpow E.toEnv (-E.halfA) 0)) (mul (czpow E.toEnv t s) (kron (eye 2) (xpow E.toEnv E.halfA 0))) = cypow E t s :=
  decompose_cypow E h.toLawfulQ t s

end CirqVerif.GateDocs
