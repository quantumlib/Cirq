import CirqVerif.Proofs.C05
/-!
# C05 — property theorems: circuits stay well-formed and lose/duplicate nothing under any edit

All theorems quantify over **every** circuit, op tree (operations and intact moments), insertion
index (negative, past the end) and all five insertion strategies, with or without the placement cache.
-/
namespace CirqVerif.C05

/-- **Conservation.** A successful `Circuit.insert` adds exactly the operations of the tree: the
operations of the result are a permutation of the old operations plus the inserted ones
(nothing lost, nothing duplicated), for every strategy, index and cache state. -/
theorem C05_insert_conserve (st st' : CState) (index : Int) (mops : List Mop) (s : Strategy) (k : Nat)
    (h : insert st index mops s = .ok (st', k)) :
    (allOps st'.moments).Perm (allOps st.moments ++ opsOfMops mops) :=
  (insert_adds h).perm

/-- **Well-formedness.** Inserting well-formed moments / operations into a circuit whose moments act
on pairwise disjoint qubits yields such a circuit again (or raises; it never silently overlaps). -/
theorem C05_insert_wf (st st' : CState) (index : Int) (mops : List Mop) (s : Strategy) (k : Nat)
    (h : insert st index mops s = .ok (st', k)) (hwf : circuitWF st.moments = true)
    (hm : ∀ mop ∈ mops, mopWF mop = true) : circuitWF st'.moments = true :=
  (insert_adds h).wf hwf hm

/-- what a caller may pass: operations act on distinct qubits, moments are well-formed
(Cirq's `Operation`/`Moment` constructors reject anything else) -/
def callWF : Call → Prop
  | .new mops _ | .append mops _ | .insert _ mops _ => ∀ mop ∈ mops, mopWF mop = true
  | .insertIntoRange ops _ _ => ∀ o ∈ ops, opWF o = true
  | .batchRemove _ => True
  | .batchReplace items => ∀ r ∈ items, opWF r.2.2 = true
  | .batchInsertInto items => ∀ r ∈ items, ∀ o ∈ r.2, opWF o = true
  | .batchInsert items => ∀ r ∈ items, ∀ mop ∈ r.2, mopWF mop = true
  | .clear _ _ => True
  | .setItem _ m => momentWF m = true
  | .delItem _ => True
  | .imul _ => True

/-- one public mutating call keeps the circuit well-formed -/
theorem C05_call_wf (st st' : CState) (c : Call) (ret : Option Nat)
    (h : applyCall st c = .ok (st', ret)) (hwf : circuitWF st.moments = true) (hc : callWF c) :
    circuitWF st'.moments = true := by
  cases c
  case clear qs idxs => cases h; exact clear_wf st qs idxs hwf
  case imul n =>
    cases h
    refine circuitWF_iff.mpr fun m hm => ?_
    obtain ⟨l, hl, hml⟩ := List.mem_flatten.mp hm
    exact circuitWF_iff.mp hwf m ((List.mem_replicate.mp hl).2 ▸ hml)
  -- every other call is a function of the model, its result paired with the return value
  all_goals obtain ⟨r, hr, ⟨⟩⟩ := map_ok h
  case new mops s => exact newCircuit_wf hc hr
  case append mops s => exact (append_adds hr).wf hwf hc
  case insert i mops s => exact (insert_adds hr).wf hwf hc
  case insertIntoRange ops a b => exact (insertIntoRange_adds hr).wf hwf (List.forall_mem_map.mpr hc)
  case batchRemove items =>
    obtain ⟨ms, hms, rfl⟩ := map_ok hr
    exact foldlM_inv (circuitWF · = true) hms hwf fun _ _ _ _ hb => removeStep_wf hb
  case batchReplace items =>
    obtain ⟨ms, hms, rfl⟩ := map_ok hr
    exact foldlM_inv (circuitWF · = true) hms hwf fun a ha _ _ hb => replaceStep_wf hb (hc a ha)
  case batchInsertInto items =>
    obtain ⟨ms, hms, rfl⟩ := map_ok hr
    exact foldlM_inv (circuitWF · = true) hms hwf fun a ha _ _ hb => insertIntoStep_wf hb (hc a ha)
  case batchInsert items => exact batchInsert_wf hr hwf hc
  case setItem i m =>
    obtain ⟨j, _, ⟨⟩⟩ := bind_ok hr
    exact circuitWF_set hwf hc
  case delItem i =>
    obtain ⟨j, _, ⟨⟩⟩ := bind_ok hr
    exact circuitWF_iff.mpr fun m hm => circuitWF_iff.mp hwf m ((List.eraseIdx_sublist _ _).subset hm)

/-- **Every reachable circuit is well-formed**: after any finite history of public mutating calls
(whatever the strategies, indices, batch edits, deletions, repetitions) every moment holds
operations on pairwise disjoint qubits. -/
theorem C05_history_wf (calls : List Call) (st st' : CState) (h : runCalls st calls = .ok st')
    (hwf : circuitWF st.moments = true) (hc : ∀ c ∈ calls, callWF c) : circuitWF st'.moments = true := by
  refine foldlM_inv (circuitWF ·.moments = true) h hwf fun c hcm b b' hb hs => ?_
  obtain ⟨r, hr, rfl⟩ := map_ok hs
  exact C05_call_wf b r.1 c r.2 hr hb (hc c hcm)

/-- `_group_into_moment_compatible`: "the output, if flattened, will equal the input" — grouping
never drops, duplicates or reorders an operation or moment. -/
theorem C05_grouping_flatten (mops : List Mop) : (groupIntoMomentCompatible mops).flatten = mops :=
  groupIntoMomentCompatible_flatten mops

/-- non-vacuity: a concrete mid-circuit insertion succeeds -/
example :
    let a : Op := { id := 1, qubits := [0], mkeys := [], ckeys := [] }
    let b : Op := { id := 2, qubits := [0, 1], mkeys := [0], ckeys := [] }
    let c : Op := { id := 3, qubits := [1], mkeys := [], ckeys := [0] }
    (insert { moments := [[a], [b]], cache := none } 1 [.op c, .mom [a]] .inline).isOk = true := by
  decide

end CirqVerif.C05
