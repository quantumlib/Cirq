import CirqVerif.Proofs.C07Timesteps
/-!
# C07 — the timestep factoring the router works on respects every dependency of the circuit

`RouteCQC` routes the two-qubit skeleton and re-inserts the one-qubit operations per timestep.  For every circuit (any operations,
qubits, measurement and control keys) the timesteps computed by the model of Model/C07Timesteps — tied to the implementation by the
`timesteps` stream of the C07 harness, which compares both lists of timesteps exactly — keep each operation after the earlier
operations it depends on; together with `C07_replay_route` (the SWAP bookkeeping) this is what makes the routed circuit the original
up to the reported permutation also for circuits with measurements and classical control.
-/
namespace CirqVerif.C07
open CirqVerif.C05

/-- **Timesteps respect dependencies**: in the factoring of a circuit into timesteps that `RouteCQC` routes by, every operation comes
strictly after each earlier two-qubit operation it conflicts with (a shared qubit, or a measurement key one of them writes and the
other reads or writes) and not before any earlier one-qubit operation it shares a qubit or key with — for every circuit -/
theorem C07_timesteps_respect_dependencies (ops : List Op) : (assign {} ops).Pairwise Rel := by
  simpa using (TSInv.init.run ops).ordered

/-- the timestep of `X(q0).with_classical_controls(k)` after `CZ(q1, q2); measure(q1, key = k)` is that of the measurement, not 0 -/
example : (assign {} [⟨1, [1, 2], [], []⟩, ⟨2, [1], [7], []⟩, ⟨3, [0], [], [7]⟩]).map (fun e => (e.1.id, e.2.1)) = [(1, 0), (2, 1), (3, 1)] := by decide

/-- **The timesteps are those of the layout**: the state `runTS` builds (what the implementation returns as two lists of timesteps) holds
every operation in the bucket `assign` names, so `C07_timesteps_respect_dependencies` is a statement about that layout -/
theorem C07_layout_is_assignment (ops : List Op) : Placed (runTS ops) (assign {} ops) := by
  simpa [runTS] using (placed_iff _ _).mpr (TSInv.init.run ops).placed

end CirqVerif.C07
