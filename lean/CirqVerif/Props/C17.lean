import CirqVerif.Spec.Vendor
/-!
# C17 — the vendor gate definitions, evaluated exactly, and the little-endian outcome encoding

The payload interpreter (driver, floats) uses `qisMatrix` of `Spec/Vendor.lean`; here the same definition is
evaluated in ℚ(ζ₈) with angles in units of π/4 and the kernel checks the documented identities between IonQ's
QIS gates.
-/
namespace CirqVerif.Vendor
open Qasm

def exactQis (name : String) (θ : Oct := ⟨0⟩) : Option (Array Q8) := qisMatrix octTrig Q8.I name θ

def mul2 (a b : Array Q8) : Array Q8 :=
  #[a[0]! * b[0]! + a[1]! * b[2]!, a[0]! * b[1]! + a[1]! * b[3]!, a[2]! * b[0]! + a[3]! * b[2]!, a[2]! * b[1]! + a[3]! * b[3]!]

def omul2 (a b : Option (Array Q8)) : Option (Array Q8) := do return mul2 (← a) (← b)

private def i : Q8 := Q8.I
private def r : Q8 := Q8.isq2
private def z : Q8 := Q8.zeta
private def h2 : Q8 := Q8.half

theorem C17_qis_h : exactQis "h" = some #[r, r, r, -r] := by decide +kernel
theorem C17_qis_y : exactQis "y" = some #[0, -i, i, 0] := by decide +kernel
theorem C17_qis_t : exactQis "t" = some #[1, 0, 0, z] := by decide +kernel
/-- `v` is the documented √NOT `½[[1+i, 1−i], [1−i, 1+i]]` -/
theorem C17_qis_v : exactQis "v" = some #[h2 * (1 + i), h2 * (1 + -i), h2 * (1 + -i), h2 * (1 + i)] := by decide +kernel
theorem C17_qis_v_squared : omul2 (exactQis "v") (exactQis "v") = exactQis "x" := by decide +kernel
theorem C17_qis_v_vi : omul2 (exactQis "v") (exactQis "vi") = some #[1, 0, 0, 1] := by decide +kernel
theorem C17_qis_s_squared : omul2 (exactQis "s") (exactQis "s") = exactQis "z" := by decide +kernel
theorem C17_qis_t_squared : omul2 (exactQis "t") (exactQis "t") = exactQis "s" := by decide +kernel
theorem C17_qis_s_si : omul2 (exactQis "s") (exactQis "si") = some #[1, 0, 0, 1] := by decide +kernel
theorem C17_qis_t_ti : omul2 (exactQis "t") (exactQis "ti") = some #[1, 0, 0, 1] := by decide +kernel
theorem C17_qis_h_squared : omul2 (exactQis "h") (exactQis "h") = some #[1, 0, 0, 1] := by decide +kernel
/-- rotations at the representable angles: `rx(π) = −iX`, `ry(π) = −iY`, `rz(π) = −iZ`, `rx(π/2)·rx(π/2) = rx(π)` -/
theorem C17_qis_rx_pi : exactQis "rx" ⟨4⟩ = some #[0, -i, -i, 0] := by decide +kernel
theorem C17_qis_ry_pi : exactQis "ry" ⟨4⟩ = some #[0, -1, 1, 0] := by decide +kernel
theorem C17_qis_rz_pi : exactQis "rz" ⟨4⟩ = some #[-i, 0, 0, i] := by decide +kernel
theorem C17_qis_rx_half_twice : omul2 (exactQis "rx" ⟨2⟩) (exactQis "rx" ⟨2⟩) = exactQis "rx" ⟨4⟩ := by decide +kernel
/-- `v` is `rx(π/2)` up to the phase e^{iπ/4} -/
theorem C17_qis_v_is_rx : exactQis "v" = (exactQis "rx" ⟨2⟩).map (fun m => m.map (z * ·)) := by decide +kernel
/-- `xx(π) = −i X⊗X`, `yy(π) = −i Y⊗Y`, `zz(π) = −i Z⊗Z` -/
theorem C17_qis_xx_pi : exactQis "xx" ⟨4⟩ = some #[0, 0, 0, -i,  0, 0, -i, 0,  0, -i, 0, 0,  -i, 0, 0, 0] := by decide +kernel
theorem C17_qis_yy_pi : exactQis "yy" ⟨4⟩ = some #[0, 0, 0, i,  0, 0, -i, 0,  0, -i, 0, 0,  i, 0, 0, 0] := by decide +kernel
theorem C17_qis_zz_pi : exactQis "zz" ⟨4⟩ = some #[-i, 0, 0, 0,  0, i, 0, 0,  0, 0, i, 0,  0, 0, 0, -i] := by decide +kernel
theorem C17_qis_unknown : exactQis "foo" = none := by decide +kernel

theorem C17_leValue_leBits (n v : Nat) : leValue (leBits n v) = v % 2 ^ n := by
  induction n generalizing v with
  | zero => simp [leBits, leValue, Nat.mod_one]
  | succ n ih =>
    simp only [leBits, leValue, ih]
    rw [Nat.pow_succ, Nat.mul_comm (2 ^ n) 2, Nat.mod_mul]

/-- **every outcome goes to the right qubit**: decoding the integer of a bit assignment returns the assignment -/
theorem C17_leBits_leValue (bits : List Nat) (h : ∀ b ∈ bits, b < 2) : leBits bits.length (leValue bits) = bits := by
  induction bits with
  | nil => rfl
  | cons b bs ih =>
    have hb : b < 2 := h b (by simp)
    have hbs : ∀ x ∈ bs, x < 2 := fun x hx => h x (by simp [hx])
    simp only [List.length_cons, leBits, leValue]
    have h1 : (b + 2 * leValue bs) % 2 = b := by omega
    have h2 : (b + 2 * leValue bs) / 2 = leValue bs := by omega
    rw [h1, h2, ih hbs]

theorem C17_leBits_length (n v : Nat) : (leBits n v).length = n := by
  induction n generalizing v with
  | zero => rfl
  | succ n ih => simp [leBits, ih]

end CirqVerif.Vendor
