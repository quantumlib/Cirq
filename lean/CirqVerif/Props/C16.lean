import CirqVerif.Model.C16
import CirqVerif.Proofs.Chunks
import CirqVerif.Proofs.Lists
/-!
# C16 — property theorems about the wire-format cores (all lengths, all tables)
-/
namespace CirqVerif.C16

theorem bitsLE_byteLE (k : Nat) (bs : List Bool) (h : bs.length ≤ k) :
    bitsLE k (byteLE bs) = bs ++ List.replicate (k - bs.length) false := by
  induction k generalizing bs with
  | zero => rw [List.eq_nil_of_length_eq_zero (Nat.le_zero.mp h)]; rfl
  | succ k ih =>
    cases bs with
    | nil => simpa [byteLE, bitsLE, List.replicate_succ] using ih [] (Nat.zero_le _)
    | cons b bs =>
      have ht : (if b then 1 else 0) < 2 := by cases b <;> decide
      rw [byteLE, bitsLE, Nat.add_mul_mod_self_left, Nat.add_mul_div_left _ _ (by decide), Nat.mod_eq_of_lt ht,
        Nat.div_eq_of_lt ht, Nat.zero_add, ih bs (Nat.le_of_succ_le_succ h), List.length_cons, Nat.add_sub_add_right]
      cases b <;> rfl

theorem packLE_eq_chunks (fuel : Nat) (bs : List Bool) : packLE fuel bs = (chunks 8 fuel bs).map byteLE := by
  induction fuel generalizing bs with
  | zero => rfl
  | succ fuel ih => cases bs <;> simp [packLE, chunks, ih]

/-- **bit packing round-trips for every number of repetitions** -/
theorem C16_unpack_pack (bits : List Bool) : unpack (pack bits) bits.length = bits := by
  obtain ⟨p, hp⟩ := flatten_map_chunks (by decide : 0 < 8) false (fun c => bitsLE 8 (byteLE c))
    (bitsLE_byteLE 8) bits.length bits (Nat.le_refl _)
  rw [unpack, pack, packLE_eq_chunks, List.flatMap_def, List.map_map]
  exact hp ▸ List.take_left' rfl

/-- the packed form has ⌈n/8⌉ bytes, each below 256 -/
theorem byteLE_lt (bs : List Bool) : byteLE bs < 2 ^ bs.length := by
  induction bs with
  | nil => simp [byteLE]
  | cons b bs ih => simp only [byteLE, List.length_cons, Nat.pow_succ]; cases b <;> simp <;> omega

theorem map_range_getD {α : Type} (l : List α) (d : α) : (List.range l.length).map (fun i => l.getD i d) = l :=
  List.ext_getElem (by simp) (fun i h1 h2 => by simp [h2])

/-- **storing a key's records per qubit and reading them back is the identity** (rectangular records) -/
theorem C16_fromCols_toCols (nq : Nat) (rows : List (List Bool)) (h : ∀ r ∈ rows, r.length = nq) :
    fromCols rows.length (toCols nq rows) = rows := by
  -- entry `i` of row `r` of the stored table is that entry of `rows`, and a list is the list of its entries
  refine Eq.trans (List.map_congr_left (fun r hr => ?_)) (map_range_getD rows [])
  have hr : r < rows.length := List.mem_range.mp hr
  rw [toCols, List.map_map, List.getD_eq_getElem?_getD, List.getElem?_eq_getElem hr, Option.getD_some,
    ← h _ (List.getElem_mem hr)]
  refine Eq.trans (List.map_congr_left (fun i _ => ?_)) (map_range_getD rows[r] false)
  simp [column, hr]

theorem toCols_length (nq : Nat) (rows : List (List Bool)) : ∀ c ∈ toCols nq rows, c.length = rows.length := by
  intro c hc
  simp only [toCols, List.mem_map, List.mem_range] at hc
  obtain ⟨i, _, rfl⟩ := hc
  simp [column]

/-- **results round-trip through the packed per-qubit layout**, any number of repetitions and qubits -/
theorem C16_decode_encode (nq : Nat) (rows : List (List Bool)) (h : ∀ r ∈ rows, r.length = nq) :
    decodeKey rows.length (encodeKey nq rows) = rows := by
  have : (toCols nq rows).map ((fun p => unpack p rows.length) ∘ pack) = toCols nq rows :=
    (List.map_congr_left (fun c hc => by
      rw [← toCols_length nq rows c hc]; exact C16_unpack_pack c)).trans (List.map_id _)
  rw [decodeKey, encodeKey, List.map_map, this]
  exact C16_fromCols_toCols nq rows h

variable {α : Type} [DecidableEq α]

/-- the position returned for a constant holds that constant -/
theorem C16_intern_resolves (t : List α) (c : α) : (intern t c).1[(intern t c).2]? = some c := by
  unfold intern
  cases h : t.idxOf? c with
  | some i => simpa using idxOf?_some_get h
  | none => simp

/-- interning never moves what is already in the table -/
theorem C16_intern_extends (t : List α) (c : α) : ∃ ext, (intern t c).1 = t ++ ext := by
  unfold intern
  cases t.idxOf? c with
  | some i => exact ⟨[], by simp⟩
  | none => exact ⟨[c], rfl⟩

theorem internAll_extends (t cs : List α) : t <+: (internAll t cs).1 := by
  induction cs generalizing t with
  | nil => exact List.prefix_refl t
  | cons c cs ih =>
    obtain ⟨e, h⟩ := C16_intern_extends t c
    exact (h ▸ List.prefix_append t e).trans (ih _)

/-- **shared constants never mix up operations**: resolving the positions handed out for a sequence of constants
against the final table returns exactly that sequence, whatever the table held before and however often constants repeat -/
theorem C16_internAll_resolves (t : List α) (cs : List α) :
    resolve (internAll t cs).1 (internAll t cs).2 = cs.map some := by
  induction cs generalizing t with
  | nil => simp [internAll, resolve]
  | cons c cs ih =>
    -- the position handed out for `c` still holds `c` in the final table, which extends `(intern t c).1`
    obtain ⟨ext, hext⟩ := internAll_extends (intern t c).1 cs
    show (internAll (intern t c).1 cs).1[(intern t c).2]?
      :: resolve (internAll (intern t c).1 cs).1 (internAll (intern t c).1 cs).2 = _
    rw [ih, ← hext, getElem?_append_of_eq_some (C16_intern_resolves t c) ext, List.map_cons]

/-- a constant already present is not stored again -/
theorem C16_intern_nodup (t : List α) (c : α) (h : t.Nodup) : (intern t c).1.Nodup := by
  unfold intern
  cases hi : t.idxOf? c with
  | some i => exact h
  | none =>
    exact List.nodup_append.mpr ⟨h, by simp, fun a ha b hb e =>
      List.idxOf?_eq_none_iff.mp hi (List.mem_singleton.mp hb ▸ e ▸ ha)⟩

example : pack [true, false, true, true, false, false, false, false, true] = [13, 1] := by decide
example : unpack [13, 1] 9 = [true, false, true, true, false, false, false, false, true] := by decide
example : (internAll ([] : List Nat) [7, 8, 7, 9, 8]) = ([7, 8, 9], [0, 1, 0, 2, 1]) := by decide

end CirqVerif.C16
