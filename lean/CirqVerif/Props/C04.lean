import CirqVerif.Proofs.Controlled
/-!
# C04 — property theorems (descriptions of one operation agree)
-/
namespace CirqVerif
open CirqVerif.C08

/-- **`controlled_slice`**: `ControlledOperation._apply_unitary_` applies the sub-operation on the slices
selected by the (expanded) control values and leaves the others untouched; this equals the action of
the controlled block matrix — for any control predicate, axes, qudit shapes and states. -/
theorem C04_controlled_slice {R : Type} [Lean.Grind.CommRing R] (sat : List Nat → Bool) (U : Mat R)
    (shape caxes taxes : List Nat) (ψ : State R) (idx : Idx) (hv : ValidIdx shape idx)
    (hc : ∀ a ∈ caxes, a < idx.length) (ht : ∀ a ∈ taxes, a < idx.length) :
    (if sat (getAxes idx caxes) then applyOp U (taxes.map (fun a => shape.getD a 1)) taxes ψ idx else ψ idx)
      = applyOp (controlledMat sat caxes.length U)
          ((caxes ++ taxes).map (fun a => shape.getD a 1)) (caxes ++ taxes) ψ idx :=
  (applyOp_controlledMat sat U shape caxes taxes ψ idx hv).symm

/-! The in-place slicing kernels (`_apply_unitary_` of X, Y, Z, H) equal the matrix action.
`args.subspace_index(0/1)` selects the two slices of the target axis; a kernel computes the new pair of
slices from the old pair.  `sliceKernel2 f a ψ` is that computation on axis `a`. -/

section kernels
variable {R : Type} [Lean.Grind.CommRing R]

def sliceKernel2 (f : R → R → R × R) (a : Nat) (ψ : State R) : State R := fun idx =>
  let r := f (ψ (idx.set a 0)) (ψ (idx.set a 1))
  if idx.getD a 0 = 0 then r.1 else r.2

def mat2 (m00 m01 m10 m11 : R) : Mat R := fun r c =>
  match r, c with
  | [0], [0] => m00 | [0], [1] => m01 | [1], [0] => m10 | [1], [1] => m11 | _, _ => 0

theorem sliceKernel2_eq (m00 m01 m10 m11 : R) (f : R → R → R × R)
    (hf : ∀ z o, f z o = (m00 * z + m01 * o, m10 * z + m11 * o))
    (a : Nat) (ψ : State R) (idx : Idx) (hd : idx.getD a 0 < 2) :
    sliceKernel2 f a ψ idx = applyOp (mat2 m00 m01 m10 m11) [2] [a] ψ idx := by
  rw [applyOp_qubit, sliceKernel2, hf]
  have : idx.getD a 0 = 0 ∨ idx.getD a 0 = 1 := by omega
  rcases this with h | h <;> rw [h]
  · show m00 * _ + m01 * _ = m00 * _ + (m01 * _ + 0); grind
  · show m10 * _ + m11 * _ = m10 * _ + (m11 * _ + 0); grind

/-- `XPowGate._apply_unitary_` (exponent 1): `buffer[zero] = target[one]; buffer[one] = target[zero]; buffer *= p` -/
def xKernel (p : R) : R → R → R × R := fun z o => (p * o, p * z)

theorem C04_kernel_X (p : R) (a : Nat) (ψ : State R) (idx : Idx) (hd : idx.getD a 0 < 2) :
    sliceKernel2 (xKernel p) a ψ idx = applyOp (mat2 0 p p 0) [2] [a] ψ idx :=
  sliceKernel2_eq 0 p p 0 _ (by intro z o; simp only [xKernel, Prod.mk.injEq]; constructor <;> grind) a ψ idx hd

/-- `YPowGate._apply_unitary_`: `buffer[zero] = -1j * target[one]; buffer[one] = 1j * target[zero]; buffer *= p` -/
def yKernel (i p : R) : R → R → R × R := fun z o => (p * (-(i * o)), p * (i * z))

theorem C04_kernel_Y (i p : R) (a : Nat) (ψ : State R) (idx : Idx) (hd : idx.getD a 0 < 2) :
    sliceKernel2 (yKernel i p) a ψ idx = applyOp (mat2 0 (-(p * i)) (p * i) 0) [2] [a] ψ idx :=
  sliceKernel2_eq 0 (-(p * i)) (p * i) 0 _ (by intro z o; simp only [yKernel, Prod.mk.injEq]; constructor <;> grind) a ψ idx hd

/-- `ZPowGate._apply_unitary_` on a qubit: `target[one] *= c; target *= p` -/
def zKernel (c p : R) : R → R → R × R := fun z o => (p * z, p * (c * o))

theorem C04_kernel_Z (c p : R) (a : Nat) (ψ : State R) (idx : Idx) (hd : idx.getD a 0 < 2) :
    sliceKernel2 (zKernel c p) a ψ idx = applyOp (mat2 p 0 0 (p * c)) [2] [a] ψ idx :=
  sliceKernel2_eq p 0 0 (p * c) _ (by intro z o; simp only [zKernel, Prod.mk.injEq]; constructor <;> grind) a ψ idx hd

/-- `HPowGate._apply_unitary_` (exponent 1), the sequence of in-place updates
`one -= zero; one *= -0.5; zero -= one; target *= sqrt(2) * p` -/
def hKernel (half sq2 p : R) : R → R → R × R := fun z o =>
  let o1 := o - z
  let o2 := o1 * (-half)
  let z1 := z - o2
  (z1 * (sq2 * p), o2 * (sq2 * p))

/-- … equals the Hadamard matrix `p/√2 · [[1, 1], [1, -1]]` (with `1/√2 = √2 · ½`) -/
theorem C04_kernel_H (half sq2 p : R) (hh : half + half = 1) (a : Nat) (ψ : State R) (idx : Idx)
    (hd : idx.getD a 0 < 2) :
    sliceKernel2 (hKernel half sq2 p) a ψ idx
      = applyOp (mat2 (p * (sq2 * half)) (p * (sq2 * half)) (p * (sq2 * half)) (-(p * (sq2 * half)))) [2] [a] ψ idx :=
  sliceKernel2_eq _ _ _ _ _ (by intro z o; simp only [hKernel, Prod.mk.injEq]; constructor <;> grind) a ψ idx hd

end kernels

end CirqVerif
