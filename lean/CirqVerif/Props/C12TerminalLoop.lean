import CirqVerif.Props.C12Terminal
import CirqVerif.Props.C12
/-!
# C12 — the two-repetition theorem, for the loops of the unrolling specification

`Props/C12Terminal` is about abstract lists.  Here it is instantiated with the specification `unrollCircuit`: for a circuit
that contains a sub-circuit operation repeated `r` times (with or without repetition ids), what the terminal-measurement
questions see of the unrolled form — the qubits of every operation and whether it is a measurement — is
`before ++ (body repeated r times) ++ after`, with the same `before`, `body`, `after` for every `r`.  Hence
`C12_loop_terminal_two_repetitions`: `r + 2` repetitions answer as two.
-/
namespace CirqVerif.C12

/-- a loop without repetition ids, seen through a `g` that looks only at the qubits, the key and the scope of an operation
(the iterations differ in their stamps alone): one iteration, `n + 1` times -/
theorem rawCO_loop_map {β : Type} (g g' : RawOp → β) (fuel : Nat) (pos : List Nat) (body : List (List Node))
    (n : Nat) (qmap : List (Nat × Nat)) (kmap : List (String × String)) (pp : List String)
    (h : ∀ o o' : RawOp, o'.qubits = o.qubits.map (assocD qmap) → o'.mkey = o.mkey.map (Key.mapName kmap) →
      o'.scope = pp ++ o.scope → g o' = g' o) :
    (rawCO (fuel + 1) pos (.mk body ((n : Int) + 1) qmap kmap none pp)).map g
      = rep (n + 1) (((body.flatten.zipIdx).flatMap (fun (nd, i) => rawNode fuel (pos ++ [i]) nd)).map g') := by
  have hne : ((n : Int) + 1 = 0) = False := by simp; omega
  have hlt : decide ((n : Int) + 1 < 0) = false := by simp; omega
  have hlen : (List.range ((n : Int) + 1).natAbs).length = n + 1 := by simp only [List.length_range]; omega
  simp only [rawCO, hne, if_false, hlt]
  rw [← hlen]
  refine flatMap_map_const _ _ g _ (fun k => ?_)
  simp only [List.map_map]
  exact List.map_congr_left (fun o _ => h o _ rfl rfl (by simp))

/-- what the terminal-measurement questions see of an operation -/
def viewF (o : FlatOp) : List Nat × Bool := (o.qubits, o.mkey.isSome)

def viewR (o : RawOp) : List Nat × Bool := (o.qubits, o.mkey.isSome)

theorem measurementsTerminal_view (fuel : Nat) (moments : List (List Node)) :
    measurementsTerminal fuel moments
      = (allTerm Prod.fst Prod.snd ((unrollCircuit fuel moments).map viewF) [],
         anyTerm Prod.fst Prod.snd ((unrollCircuit fuel moments).map viewF) []) := by
  rw [measurementsTerminal, allTerm_view, anyTerm_view]
  rfl

/-- the view of the unrolled circuit `pre ++ [[x]] ++ post`: that of the raw operations of `x`, between parts that do not
depend on `x` (the scoping pass does not change what the questions see) -/
theorem unroll_view (fuel : Nat) (pre post : List (List Node)) :
    ∃ P Q : List (List Nat × Bool), ∀ x : Node,
      (unrollCircuit fuel (pre ++ [[x]] ++ post)).map viewF = P ++ (rawNode fuel [pre.flatten.length] x).map viewR ++ Q := by
  refine ⟨(pre.flatten.zipIdx.flatMap fun (n, i) => rawNode fuel [i] n).map viewR,
    ((post.flatten.zipIdx (pre.flatten.length + 1)).flatMap fun (n, i) => rawNode fuel [i] n).map viewR, fun x => ?_⟩
  rw [unrollCircuit, scopePassS_map viewF viewR (fun _ _ => by simp [viewF, viewR])]
  simp [List.zipIdx_append]

theorem loop_view (fuel : Nat) (pos : List Nat) (body : List (List Node)) (n : Nat) (qmap : List (Nat × Nat))
    (kmap : List (String × String)) (pp : List String) (conds : List (Key × Int)) :
    (rawNode (fuel + 1) pos (.sub (.mk body ((n : Int) + 1) qmap kmap none pp) conds)).map viewR
      = rep (n + 1) (((body.flatten.zipIdx).flatMap (fun (nd, i) => rawNode fuel (pos ++ [i]) nd)).map
          (fun o => (o.qubits.map (assocD qmap), o.mkey.isSome))) := by
  rw [rawNode, List.map_map]
  exact rawCO_loop_map _ _ fuel pos body n qmap kmap pp (fun o o' hq hm _ => by simp [viewR, hq, hm])

/-- **the terminal-measurement questions on the unrolled form of a circuit with a loop: `n + 3` repetitions answer as
two** (`measurementsTerminal` is what `Circuit.are_all_measurements_terminal` / `are_any_measurements_terminal` are
compared with on every run) -/
theorem C12_loop_terminal_two_repetitions (f : Nat) (pre post : List (List Node)) (body : List (List Node))
    (qmap : List (Nat × Nat)) (kmap : List (String × String)) (pp : List String) (n : Nat) :
    measurementsTerminal (f + 1) (pre ++ [[Node.sub (.mk body (((n + 2 : Nat) : Int) + 1) qmap kmap none pp) []]] ++ post)
      = measurementsTerminal (f + 1) (pre ++ [[Node.sub (.mk body (((1 : Nat) : Int) + 1) qmap kmap none pp) []]] ++ post) := by
  obtain ⟨P, Q, h⟩ := unroll_view (f + 1) pre post
  simp only [measurementsTerminal_view, h, loop_view,
    C12_all_terminal_two_repetitions Prod.fst Prod.snd P _ Q (n + 1),
    C12_any_terminal_two_repetitions Prod.fst Prod.snd P _ Q (n + 1)]

/-- one repetition is not enough: a body `X(q0); measure(q0)` is all-terminal once, not twice (and twice is as thrice) -/
example :
    measurementsTerminal 3 [[.sub (.mk [[.op 1 [0] none [] false], [.op 2 [0] (some { path := [], name := "m" }) [] false]] 1 [] [] none []) []]] = (true, true)
    ∧ measurementsTerminal 3 [[.sub (.mk [[.op 1 [0] none [] false], [.op 2 [0] (some { path := [], name := "m" }) [] false]] 2 [] [] none []) []]] = (false, true)
    ∧ measurementsTerminal 3 [[.sub (.mk [[.op 1 [0] none [] false], [.op 2 [0] (some { path := [], name := "m" }) [] false]] 0 [] [] none []) []]] = (true, false) := by
  simp [measurementsTerminal, unrollCircuit, rawNode, rawCO, scopePassS, allTerm, anyTerm, disj, List.range, List.range.loop,
    List.zipIdx]

end CirqVerif.C12
