import CirqVerif.Model.C06
import CirqVerif.Props.C01
/-!
# C06 — reordering that respects every wire preserves what a circuit computes

`C06_same_wire_order_is_swaps`: if two operation lists contain the same (distinct) operations and list them in the
same order on every wire, one is obtained from the other by exchanging adjacent independent operations
(the projection lemma of trace theory, by induction on the first list).  `C06_swaps_preserve_semantics`: such
exchanges preserve any semantics in which independent operations commute; `C06_reordering_preserves_state`
instantiates it with the tensor action of C01 (`C01_apply_comm`).  `C06_check_sound`: the executable check applied
to the output of the real transformers implies the hypothesis.
-/
namespace CirqVerif.C06

theorem indep_iff (a b : TOp) : indep a b = true ↔ ∀ w ∈ a.wires, w ∉ b.wires := by simp [indep]

theorem indep_symm (a b : TOp) (h : indep a b = true) : indep b a = true := by
  rw [indep_iff] at *
  exact fun w hb ha => h w ha hb

theorem Swaps.trans {a b c : List TOp} (h1 : Swaps a b) (h2 : Swaps b c) : Swaps a c := by
  induction h1 with
  | refl l => exact h2
  | step pre post x y l' h _ ih => exact Swaps.step pre post x y c h (ih h2)

theorem Swaps.cons (x : TOp) {l l' : List TOp} (h : Swaps l l') : Swaps (x :: l) (x :: l') := by
  induction h with
  | refl l => exact Swaps.refl _
  | step pre post a b l' hi _ ih => exact Swaps.step (x :: pre) post a b (x :: l') hi ih

theorem bubble (a : TOp) (pre post : List TOp) (h : ∀ b ∈ pre, indep a b = true) :
    Swaps (a :: (pre ++ post)) (pre ++ a :: post) := by
  induction pre with
  | nil => exact Swaps.refl _
  | cons b pre' ih =>
    obtain ⟨hb, h'⟩ := List.forall_mem_cons.mp h
    exact Swaps.step [] (pre' ++ post) a b _ hb (Swaps.cons b (ih h'))

theorem proj_cons (w : Nat) (a : TOp) (l : List TOp) :
    proj w (a :: l) = if a.wires.contains w then a :: proj w l else proj w l := List.filter_cons

theorem proj_append (w : Nat) (l1 l2 : List TOp) : proj w (l1 ++ l2) = proj w l1 ++ proj w l2 := List.filter_append ..

theorem mem_proj {w : Nat} {l : List TOp} {x : TOp} : x ∈ proj w l ↔ x ∈ l ∧ w ∈ x.wires := by simp [proj]

theorem proj_eq_nil_iff {w : Nat} {l : List TOp} : proj w l = [] ↔ ∀ b ∈ l, w ∉ b.wires := by simp [proj]

/-- **the projection lemma** of trace theory: the same operations (each as often as in the other list) in the same order on every
wire ⇒ related by independent exchanges.  By induction on `l1 = a :: t`: before the first `a` in `l2` nothing shares a wire with `a`
(on that wire `l2` would list it first, `l1` lists `a` first), so `a` moves to the front of `l2` -/
theorem swaps_of_perm_of_proj {l1 l2 : List TOp} (hperm : l1.Perm l2) (hp : ∀ w, proj w l1 = proj w l2) : Swaps l1 l2 := by
  induction l1 generalizing l2 with
  | nil => rw [← hperm.nil_eq]; exact Swaps.refl _
  | cons a t ih =>
    obtain ⟨pre, post, rfl, hnpre⟩ := List.eq_append_cons_of_mem (hperm.subset List.mem_cons_self)
    -- on a wire of `a` the hypothesis reads `a :: proj w t = proj w pre ++ a :: proj w post`, and `a ∉ pre`
    have key : ∀ w, w ∈ a.wires → proj w pre = [] ∧ proj w t = proj w post := by
      intro w hw
      have h1 := hp w
      simp only [proj_append, proj_cons, List.contains_eq_mem, hw, decide_true, if_true] at h1
      rcases List.cons_eq_append_iff.mp h1 with ⟨hnil, h2⟩ | ⟨as, has, _⟩
      · exact ⟨hnil, (List.tail_eq_of_cons_eq h2).symm⟩
      · exact absurd (mem_proj.mp (has ▸ List.mem_cons_self)).1 hnpre
    have hp' : ∀ w, proj w t = proj w (pre ++ post) := fun w => by
      by_cases hw : w ∈ a.wires
      · rw [proj_append, (key w hw).1, (key w hw).2, List.nil_append]
      · simpa [proj_cons, proj_append, hw] using hp w
    exact (Swaps.cons a (ih ((List.perm_cons a).mp (hperm.trans List.perm_middle)) hp')).trans
      (bubble a pre post fun b hb => (indep_iff a b).mpr fun w hwa => proj_eq_nil_iff.mp (key w hwa).1 b hb)

/-- **the projection lemma**: same operations, same order on every wire ⇒ related by independent exchanges -/
theorem C06_same_wire_order_is_swaps : ∀ (l1 l2 : List TOp), l1.Nodup → l2.Nodup → (∀ x, x ∈ l1 ↔ x ∈ l2) →
    (∀ w, proj w l1 = proj w l2) → Swaps l1 l2 :=
  fun _ _ hn1 hn2 hm hp => swaps_of_perm_of_proj ((List.perm_ext_iff_of_nodup hn1 hn2).mpr hm) hp

/-- exchanges of independent operations preserve any semantics in which independent operations commute -/
theorem C06_swaps_preserve_semantics {σ : Type} (sem : TOp → σ → σ)
    (hcomm : ∀ a b, indep a b = true → ∀ s, sem b (sem a s) = sem a (sem b s))
    {l1 l2 : List TOp} (h : Swaps l1 l2) (s : σ) :
    l1.foldl (fun s o => sem o s) s = l2.foldl (fun s o => sem o s) s := by
  induction h generalizing s with
  | refl l => rfl
  | step pre post a b l' hi _ ih =>
    rw [← ih s]
    simp only [List.foldl_append, List.foldl_cons]
    rw [hcomm a b hi]

/-- **the executable check is sound**: it implies the hypotheses of the projection lemma -/
theorem C06_check_sound (l1 l2 : List TOp) (h : sameDependencyOrder l1 l2 = true) : Swaps l1 l2 := by
  unfold sameDependencyOrder at h
  simp only [Bool.and_eq_true, decide_eq_true_eq, List.all_eq_true, List.contains_eq_mem, beq_iff_eq] at h
  obtain ⟨⟨⟨⟨hn1, hn2⟩, h12⟩, h21⟩, hw⟩ := h
  refine C06_same_wire_order_is_swaps l1 l2 hn1 hn2 (fun x => ⟨h12 x, h21 x⟩) fun w => ?_
  by_cases hmem : w ∈ (l1 ++ l2).flatMap (·.wires)
  · exact hw w hmem
  · -- a wire that no operation mentions has empty projections
    simp only [List.flatMap_append, List.mem_append, List.mem_flatMap, not_or, not_exists, not_and] at hmem
    rw [proj_eq_nil_iff.mpr hmem.1, proj_eq_nil_iff.mpr hmem.2]

/-- **a reordering that respects every wire yields the same state**: operations are local operators acting on the axes
listed as their wires; independent ones commute (`C01_apply_comm`) -/
theorem C06_reordering_preserves_state {R : Type} [Lean.Grind.CommRing R]
    (mat : TOp → Mat R) (dims : TOp → List Nat) {l1 l2 : List TOp} (h : sameDependencyOrder l1 l2 = true) (ψ : State R) :
    l1.foldl (fun s o => applyOp (mat o) (dims o) o.wires s) ψ = l2.foldl (fun s o => applyOp (mat o) (dims o) o.wires s) ψ := by
  apply C06_swaps_preserve_semantics (fun o s => applyOp (mat o) (dims o) o.wires s) ?_ (C06_check_sound l1 l2 h) ψ
  intro a b hi s
  funext idx
  exact C01_apply_comm (mat b) (mat a) (dims b) b.wires (dims a) a.wires s idx ((indep_iff b a).mp (indep_symm a b hi))

example : sameDependencyOrder [⟨1, [0]⟩, ⟨2, [1]⟩, ⟨3, [0, 1]⟩] [⟨2, [1]⟩, ⟨1, [0]⟩, ⟨3, [0, 1]⟩] = true := by decide

example : sameDependencyOrder [⟨1, [0]⟩, ⟨3, [0, 1]⟩, ⟨2, [1]⟩] [⟨2, [1]⟩, ⟨1, [0]⟩, ⟨3, [0, 1]⟩] = false := by decide

end CirqVerif.C06
