import CirqVerif.Props.C19
/-! the largest kernel evaluations of `Props.C19` have modules of their own, so that they build side by side -/
namespace CirqVerif.Qasm

/-- the 15-gate Clifford+T expansion of `ccx` is exactly the Toffoli permutation -/
theorem C19_qelib_ccx : exactColumns 3 [("ccx", [], [0, 1, 2])] =
    some [#[1, 0, 0, 0, 0, 0, 0, 0], #[0, 1, 0, 0, 0, 0, 0, 0], #[0, 0, 1, 0, 0, 0, 0, 0], #[0, 0, 0, 1, 0, 0, 0, 0],
          #[0, 0, 0, 0, 1, 0, 0, 0], #[0, 0, 0, 0, 0, 1, 0, 0], #[0, 0, 0, 0, 0, 0, 0, 1], #[0, 0, 0, 0, 0, 0, 1, 0]] :=
  exactColumns_of_dyadic (by decide +kernel)

end CirqVerif.Qasm
