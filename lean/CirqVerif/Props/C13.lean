import CirqVerif.Model.C13
/-!
# C13 — the row semantics of the tableau rules

The per-gate statements `tableau_rule_<g>` ("the update of every row pattern is `U P U†`") are obligations
on tables regenerated from the running code (`Obligations/C13.lean`).  Here: facts about the row semantics
they are stated in.
-/
namespace CirqVerif.C13

/-- the four single-qubit row patterns denote Hermitian unitaries (so rows are ± Pauli operators) -/
theorem C13_row_patterns_are_paulis :
    [(false, false), (true, false), (false, true), (true, true)].all (fun (x, z) =>
      QMat.dagger (pauliMat x z) == pauliMat x z && QMat.mul (pauliMat x z) (pauliMat x z) == QMat.eye 2) = true := by
  decide +kernel

/-- the `Y` row pattern is `i·X·Z` (the convention relating tableau bits to the Pauli matrix) -/
theorem C13_y_is_ixz :
    pauliMat true true = QMat.smul Q8.I (QMat.mul (pauliMat true false) (pauliMat false true)) := by
  decide +kernel

end CirqVerif.C13
