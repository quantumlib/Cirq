import CirqVerif.Proofs.Eigen
import CirqVerif.Proofs.Controlled
/-!
# C08 — property theorems (gate algebra)
-/
namespace CirqVerif.Eigen
variable {R : Type} [Lean.Grind.CommRing R]

/-- **Powers add** for every `EigenGate`: with orthogonal idempotent eigen-projectors (decided for the
tables extracted from the running code, `Obligations/C03.lean`) the matrices of `G**t₁` and `G**t₂`
multiply to the matrix of `G**(t₁+t₂)`, for all exponents and global shifts. -/
theorem C08_eigen_powers_add {A : Type} [Lean.Grind.CommRing A] (d n : Nat) (θ : Nat → A) (s : A) (ph : A → R)
    (hph : ∀ x y, ph (x + y) = ph x * ph y) (P : Nat → FMat R)
    (horth : ∀ k l, k < n → l < n → ∀ i j, fmul d (P k) (P l) i j = if k = l then P k i j else 0)
    (t₁ t₂ : A) (i j : Nat) :
    fmul d (eigenU n θ s ph P t₁) (eigenU n θ s ph P t₂) i j = eigenU n θ s ph P (t₁ + t₂) i j := by
  unfold eigenU
  rw [spectral_mul d n _ _ P horth]
  refine sumL_congr (fun k _ => ?_)
  show ph (t₁ * (θ k + s)) * ph (t₂ * (θ k + s)) * P k i j = ph ((t₁ + t₂) * (θ k + s)) * P k i j
  rw [← hph, ← Lean.Grind.Semiring.right_distrib]

/-- **Inverse undoes**: `U(t)·U(-t) = U(0) = Σₖ Pₖ` (the identity for complete projectors). -/
theorem C08_eigen_inverse {A : Type} [Lean.Grind.CommRing A] (d n : Nat) (θ : Nat → A) (s : A) (ph : A → R)
    (hph : ∀ x y, ph (x + y) = ph x * ph y) (hph0 : ph 0 = 1) (P : Nat → FMat R)
    (horth : ∀ k l, k < n → l < n → ∀ i j, fmul d (P k) (P l) i j = if k = l then P k i j else 0)
    (t : A) (i j : Nat) :
    fmul d (eigenU n θ s ph P t) (eigenU n θ s ph P (-t)) i j = sumL (List.range n) (fun k => P k i j) := by
  have : t + -t = 0 := by grind
  rw [C08_eigen_powers_add d n θ s ph hph P horth, this, eigenU_zero n θ s ph hph0 P]

end CirqVerif.Eigen

namespace CirqVerif.C08

/-- `ProductOfSums.expand()` denotes exactly the product set: a control tuple is in the expansion iff
every digit is one of the values allowed for its control. -/
theorem C08_cv_expand (p : PoS) (c : List Nat) : c ∈ expandPoS p ↔ satPoS p c = true := mem_product p c

/-- **Controlling by any control values gives the block matrix that applies the target exactly on the
selected control states** — as an action on states: on a basis index whose control digits are selected the
controlled operation acts as the target operation, on every other basis index as the identity.  Any
predicate on control tuples (product of sums, sum of products), any control / target axes, qudit shapes. -/
theorem C08_controlled_apply {R : Type} [Lean.Grind.CommRing R] (sat : List Nat → Bool) (U : Mat R)
    (shape caxes taxes : List Nat) (ψ : State R) (idx : Idx) (hv : ValidIdx shape idx)
    (hc : ∀ a ∈ caxes, a < idx.length) (ht : ∀ a ∈ taxes, a < idx.length) :
    applyOp (controlledMat sat caxes.length U)
        ((caxes ++ taxes).map (fun a => shape.getD a 1)) (caxes ++ taxes) ψ idx
      = if sat (getAxes idx caxes) then
          applyOp U (taxes.map (fun a => shape.getD a 1)) taxes ψ idx
        else ψ idx :=
  applyOp_controlledMat sat U shape caxes taxes ψ idx hv

end CirqVerif.C08
