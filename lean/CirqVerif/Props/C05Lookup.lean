import CirqVerif.Proofs.C05
/-!
# C05 — the moment look-ups (`next_moment_operating_on`, `prev_moment_operating_on`, with and without `max_distance`)

What the model's look-ups return, for every circuit, qubit list and window: the first (last) moment inside the window that
touches one of the qubits, and nothing when there is none.  The executable definitions are compared with the implementation
on every history of the C05 check (query calls `q_next` / `q_prev`).  `earliest_available_moment` is here too: it is the same
backward scan of a prefix as the `prev` look-up (`findIdx_reverse_take`).
-/
namespace CirqVerif.C05

theorem nextMomentOperatingOn_eq (c : Circuit) (qs : List Nat) (start : Nat) :
    nextMomentOperatingOn c qs start = ((c.drop start).findIdx? (operatesOn · qs)).map (start + ·) := by
  unfold nextMomentOperatingOn; split <;> simp [*]

/-- `next_moment_operating_on` returns the first moment at or after `start` that touches the qubits … -/
theorem C05_next_moment_spec (c : Circuit) (qs : List Nat) (start m : Nat) :
    nextMomentOperatingOn c qs start = some m ↔
      ∃ h : m < c.length, start ≤ m ∧ operatesOn c[m] qs = true ∧
        ∀ j (hj : j < c.length), start ≤ j → j < m → operatesOn c[j] qs = false := by
  -- core's description of `findIdx?`, where position `k` of `c.drop start` is position `start + k` of `c`
  simp only [nextMomentOperatingOn_eq, Option.map_eq_some_iff, List.findIdx?_eq_some_iff_getElem, List.length_drop,
    List.getElem_drop, Bool.not_eq_true]
  constructor
  · rintro ⟨i, ⟨hi, hp, hmin⟩, rfl⟩
    refine ⟨by omega, Nat.le_add_right .., hp, fun j hj hsj hjm => ?_⟩
    obtain ⟨k, rfl⟩ := Nat.exists_eq_add_of_le hsj
    exact hmin k (by omega)
  · rintro ⟨hlen, hsm, hp, hmin⟩
    obtain ⟨i, rfl⟩ := Nat.exists_eq_add_of_le hsm
    exact ⟨i, ⟨by omega, hp, fun k hk => hmin (start + k) (by omega) (Nat.le_add_right ..) (by omega)⟩, rfl⟩

/-- … and nothing exactly when no moment from `start` on touches them. -/
theorem C05_next_moment_none (c : Circuit) (qs : List Nat) (start : Nat) :
    nextMomentOperatingOn c qs start = none ↔
      ∀ j (hj : j < c.length), start ≤ j → operatesOn c[j] qs = false := by
  rw [nextMomentOperatingOn_eq, Option.map_eq_none_iff, List.findIdx?_eq_none_iff]
  constructor
  · intro h j hj hsj
    obtain ⟨k, rfl⟩ := Nat.exists_eq_add_of_le hsj
    exact h _ (List.mem_drop_iff_getElem.mpr ⟨k, by omega, rfl⟩)
  · intro h x hx
    obtain ⟨k, hk, rfl⟩ := List.mem_drop_iff_getElem.mp hx
    exact h _ _ (Nat.le_add_right ..)

/-- in the shape the window theorems reach after `cases … | some k` on the unbounded look-up -/
theorem ite_some_eq_some {p : Nat → Prop} [DecidablePred p] {k m : Nat} :
    (if p k then some k else none) = some m ↔ some k = some m ∧ p m := by
  rw [Option.ite_none_right_eq_some, Option.some.injEq]
  exact ⟨fun ⟨h, e⟩ => e ▸ ⟨rfl, e ▸ h⟩, fun ⟨e, h⟩ => ⟨e ▸ h, e⟩⟩

/-- with a window: the answer of the unbounded look-up when it lies within `max_distance` moments, nothing otherwise -/
theorem C05_next_moment_within (c : Circuit) (qs : List Nat) (start d m : Nat) :
    nextMomentWithin c qs start d = some m ↔ nextMomentOperatingOn c qs start = some m ∧ m < start + d := by
  unfold nextMomentWithin
  cases nextMomentOperatingOn c qs start with
  | none => simp
  | some k => exact ite_some_eq_some (p := (· < start + d))

theorem C05_prev_moment_within (c : Circuit) (qs : List Nat) (e d m : Nat) :
    prevMomentWithin c qs e d = some m ↔ prevMomentOperatingOn c qs e = some m ∧ e ≤ m + d := by
  unfold prevMomentWithin
  cases prevMomentOperatingOn c qs e with
  | none => simp
  | some k => exact ite_some_eq_some (p := (e ≤ · + d))

/-- `prev_moment_operating_on` returns the last moment before `e` (and inside the circuit) that touches the qubits -/
theorem C05_prev_moment_spec (c : Circuit) (qs : List Nat) (e m : Nat) :
    prevMomentOperatingOn c qs e = some m →
      ∃ h : m < c.length, m < e ∧ operatesOn c[m] qs = true ∧
        ∀ j (hj : j < c.length), m < j → j < e → operatesOn c[j] qs = false := by
  fun_cases prevMomentOperatingOn c qs e with
  | case2 => rintro ⟨⟩
  | case1 e' i hf =>
    rintro ⟨⟩
    have he : e' ≤ c.length := Nat.min_le_right ..
    have he' : e' ≤ e := Nat.min_le_left ..
    obtain ⟨hi, ht⟩ := List.findIdx?_eq_some_iff_findIdx_eq.mp hf
    rw [List.length_reverse, List.length_take_of_le he] at hi
    obtain ⟨h1, h2⟩ := findIdx_reverse_take he ht
    -- the scan stops at `r = e' - i > 0`, and the answer is `r - 1`
    rw [Nat.sub_right_comm]
    have hr : 0 < e' - i := Nat.sub_pos_of_lt hi
    have hre : e' - i ≤ e' := Nat.sub_le ..
    generalize e' - i = r at *
    have hm : r - 1 < c.length := by omega
    exact ⟨hm, by omega, h2 hr _ (List.getElem?_eq_getElem hm), fun j hj hmj hje =>
      h1 j _ (by omega) (Nat.lt_min.mpr ⟨hje, hj⟩) (List.getElem?_eq_getElem hj)⟩

/-- **`earliest_available_moment` is the backward scan it documents**: the returned index `r`
is at most the (clamped) end index, no moment in `[r, end)` conflicts with the operation (qubit
overlap, measurement-key or control-key dependency), and if `r > 0` the moment just before does. -/
theorem C05_earliest_available_spec (c : Circuit) (op : Op) (e : Nat) :
    let r := earliestAvailable c op e
    let e' := min e c.length
    r ≤ e' ∧ (∀ i, r ≤ i → i < e' → ∀ m, c[i]? = some m → conflicts m op = false)
      ∧ (0 < r → ∀ m, c[r - 1]? = some m → conflicts m op = true) := by
  obtain ⟨h1, h2⟩ := findIdx_reverse_take (p := (conflicts · op)) (Nat.min_le_right e c.length) rfl
  rw [earliestAvailable_eq]
  exact ⟨Nat.sub_le .., fun i hri hie m => h1 i m hri hie, h2⟩

/-- the window of `prev_moment_operating_on(end, max_distance)` counts from `end` itself, also past the end of the circuit:
a circuit of five moments with the only operation in moment 1 is not reached from `end = 13` within nine moments -/
example : prevMomentWithin [[], [{ id := 1, qubits := [0], mkeys := [], ckeys := [] }], [], [], []] [0] 13 9 = none
    ∧ prevMomentWithin [[], [{ id := 1, qubits := [0], mkeys := [], ckeys := [] }], [], [], []] [0] 13 12 = some 1 := by decide

end CirqVerif.C05
