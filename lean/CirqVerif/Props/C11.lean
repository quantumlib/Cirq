import CirqVerif.Model.C11
import CirqVerif.Proofs.Lists
/-!
# C11 — the shared-object mechanism of the JSON format round-trips every value

`C11_roundtrip`: for every value (any nesting, any number of shared objects occurring any number of times, shared
objects nested in shared objects) reading what was written returns the value.  The proof threads the encoder's and
the decoder's memo through the traversal: a key is *pending* while the shared object it belongs to is still being
written (its contents come first in the document); a pending object is strictly larger than anything inside it, so no
reference to a pending key is ever emitted.
-/
namespace CirqVerif.C11

/-- encoder memo `m` and decoder memo `dm` agree up to the keys `pend`ing: every key is resolved in `dm`, or belongs to a
shared object that is still being written -/
def Agree (pend : Nat → Val → Prop) (m : List Val) (dm : List (Nat × Val)) : Prop :=
  ∀ k w, m[k]? = some w → dm.lookup k = some w ∨ pend k w

section
variable {pend : Nat → Val → Prop} {m : List Val} {dm : List (Nat × Val)}

/-- a shared object met for the first time takes the next key, which is pending while its contents are written … -/
theorem Agree.push (h : Agree pend m dm) (s : Val) :
    Agree (fun k w => pend k w ∨ (k = m.length ∧ w = s)) (m ++ [s]) dm := by
  intro k w hk
  rcases Nat.lt_or_ge k m.length with hlt | hge
  · rw [List.getElem?_append_left hlt] at hk
    exact (h k w hk).imp_right Or.inl
  · rw [List.getElem?_append_right hge, List.getElem?_singleton] at hk
    split at hk
    · cases hk; exact Or.inr (Or.inr ⟨by omega, rfl⟩)
    · cases hk

/-- … and is registered after them -/
theorem Agree.register {n : Nat} {s : Val} (h : Agree (fun k w => pend k w ∨ (k = n ∧ w = s)) m dm) (hn : m[n]? = some s) :
    Agree pend m ((n, s) :: dm) := by
  intro j w hj
  by_cases hjn : j = n
  · subst hjn
    rw [hn] at hj
    cases hj
    exact Or.inl List.lookup_cons_self
  · rcases h j w hj with h | h | ⟨h, _⟩
    · exact Or.inl (by rw [List.lookup, beq_false_of_ne hjn]; exact h)
    · exact Or.inr h
    · exact absurd h hjn

end

theorem enc_prefix (m : List Val) (v : Val) : m <+: (enc m v).1 := by
  induction v generalizing m with
  | atom s => exact List.prefix_rfl
  | pair a b iha ihb => exact (iha m).trans (ihb _)
  | obj t v ih => exact ih m
  | shared v ih =>
    rw [enc]
    cases m.idxOf? (Val.shared v) with
    | some k => exact List.prefix_rfl
    | none => exact (List.prefix_append m _).trans (ih _)

theorem get_of_prefix {m ext : List Val} {k : Nat} {w : Val} (h : m[k]? = some w) : (m ++ ext)[k]? = some w :=
  getElem?_append_of_eq_some h ext

/-- the state-threaded round trip: the pending objects are larger than `v` (they enclose it), so `v` never refers to one;
when `v` has been read back the memos agree again, with the same keys pending -/
theorem roundtrip_aux (v : Val) : ∀ (pend : Nat → Val → Prop) (m : List Val) (dm : List (Nat × Val)),
    (∀ k w, pend k w → sizeOf v < sizeOf w) → Agree pend m dm →
    ∃ dm', dec dm (enc m v).2 = some (dm', v) ∧ Agree pend (enc m v).1 dm' := by
  induction v with
  | atom s => intro pend m dm _ hag; exact ⟨dm, rfl, hag⟩
  | obj t v ih =>
    intro pend m dm hp hag
    obtain ⟨dm', hd, hag'⟩ := ih pend m dm (fun k w h => Nat.lt_trans (by simp +arith) (hp k w h)) hag
    exact ⟨dm', by simp [enc, dec, hd], hag'⟩
  | pair a b iha ihb =>
    intro pend m dm hp hag
    obtain ⟨dm1, hd1, hag1⟩ := iha pend m dm (fun k w h => Nat.lt_trans (by simp +arith) (hp k w h)) hag
    obtain ⟨dm2, hd2, hag2⟩ := ihb pend _ dm1 (fun k w h => Nat.lt_trans (by simp +arith) (hp k w h)) hag1
    exact ⟨dm2, by simp [enc, dec, hd1, hd2], hag2⟩
  | shared v ih =>
    intro pend m dm hp hag
    simp only [enc]
    cases hidx : m.idxOf? (Val.shared v) with
    | some k =>
      -- met before: not pending (a pending object is larger), so the decoder knows the key
      rcases hag k _ (idxOf?_some_get hidx) with h | h
      · exact ⟨dm, by simp [dec, h], hag⟩
      · exact absurd (hp k _ h) (Nat.lt_irrefl _)
    | none =>
      obtain ⟨dm1, hd1, hag1⟩ := ih _ _ dm
        (fun k w h => by
          rcases h with h | ⟨_, rfl⟩
          · exact Nat.lt_trans (by simp +arith) (hp k w h)
          · simp +arith)
        (hag.push (Val.shared v))
      obtain ⟨ext, hext⟩ := enc_prefix (m ++ [Val.shared v]) v
      exact ⟨(m.length, Val.shared v) :: dm1, by simp [dec, hd1],
        hag1.register (hext ▸ get_of_prefix List.getElem?_concat_length)⟩

/-- **JSON round-trips every value, shared sub-objects included** -/
theorem C11_roundtrip (v : Val) : readJson (toJson v) = some v := by
  obtain ⟨dm', hd, _⟩ := roundtrip_aux v (fun _ _ => False) [] [] (fun _ _ h => h.elim) (fun k w hk => by simp at hk)
  simp [readJson, toJson, hd]

/-- a shared object that has been written is never written again: its second occurrence is a reference -/
theorem C11_second_occurrence_is_ref (m : List Val) (v : Val) (k : Nat) (h : m.idxOf? (Val.shared v) = some k) :
    (enc m (Val.shared v)).2 = Enc.ref k := by
  simp [enc, h]

example : toJson (.pair (.shared (.atom "c")) (.pair (.shared (.pair (.shared (.atom "c")) (.atom "x"))) (.shared (.atom "c"))))
    = .pair (.val 0 (.atom "c")) (.pair (.val 1 (.pair (.ref 0) (.atom "x"))) (.ref 0)) := by decide

end CirqVerif.C11
