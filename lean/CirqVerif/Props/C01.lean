import CirqVerif.Proofs.Sim
/-!
# C01 — property theorems (reference semantics of unitary simulation)
-/
namespace CirqVerif

/-- **The interpreter the implementation is compared with computes the ordered product**: reading the
final array of `runArr` equals folding the local operators of the circuit, in circuit order, over the
initial state (`applyOps`), on every valid basis index, for every register shape (qubits and qudits),
every circuit and every initial array. -/
theorem C01_interpreter_is_ordered_product {R : Type} [Add R] [Mul R] [OfNat R 0] [Inhabited R]
    (shape : List Nat) (ops : List (ArrOp R)) (arr : Array R) (idx : Idx) (h : ValidIdx shape idx) :
    stateOfArray shape (runArr shape arr ops) idx
      = applyOps (ops.map (fun op =>
          (matOfArray (op.axes.map (fun a => shape.getD a 1)) op.matrix,
           op.axes.map (fun a => shape.getD a 1), op.axes))) (stateOfArray shape arr) idx :=
  runArr_refines shape ops arr _ (fun _ _ => rfl) idx h

/-- **Functoriality** (two operations on the same axes compose to their matrix product) -/
theorem C01_apply_comp {R : Type} [Lean.Grind.CommRing R] (U V : Mat R) (dims axes : List Nat)
    (ψ : State R) (idx : Idx) (hn : axes.Nodup) (hlt : ∀ a ∈ axes, a < idx.length)
    (hl : dims.length = axes.length) :
    applyOp U dims axes (applyOp V dims axes ψ) idx = applyOp (matMul dims U V) dims axes ψ idx := by
  have hlen : ∀ b ∈ allIdx dims, b.length = axes.length := fun b hb => (allIdx_length dims b hb).trans hl
  unfold applyOp matMul
  -- Σ_b U g b · Σ_c V b c · ψ(idx[axes := c]) with g = getAxes idx axes: the inner write overwrites the outer one
  refine Eq.trans (b := sumL (allIdx dims) (fun b => sumL (allIdx dims) (fun c =>
      U (getAxes idx axes) b * V b c * ψ (setAxes idx axes c)))) ?_ ?_
  · refine sumL_congr (fun b hb => ?_)
    rw [← sumL_mul_left]
    refine sumL_congr (fun c hc => ?_)
    rw [getAxes_setAxes_same idx axes b hn hlt (hlen b hb),
      setAxes_setAxes_same idx axes b c hn (hlen b hb) (hlen c hc)]
    grind
  · rw [sumL_comm]
    exact sumL_congr (fun c _ => sumL_mul_right _ _ _)

/-- **Locality**: operations on disjoint wires commute, so the order of operations within a moment
(and any reordering that keeps operations sharing a wire in order) does not change the result. -/
theorem C01_apply_comm {R : Type} [Lean.Grind.CommRing R] (U V : Mat R) (dU aU dV aV : List Nat)
    (ψ : State R) (idx : Idx) (hd : ∀ a ∈ aU, a ∉ aV) :
    applyOp U dU aU (applyOp V dV aV ψ) idx = applyOp V dV aV (applyOp U dU aU ψ) idx := by
  unfold applyOp
  -- neither operator's row digits are touched by the other's writes, and the writes commute
  simp only [getAxes_setAxes_disjoint idx aV aU _ (fun a ha hu => hd a hu ha),
    getAxes_setAxes_disjoint idx aU aV _ hd, setAxes_comm idx aV aU _ _ (fun a ha hu => hd a hu ha),
    ← sumL_mul_left]
  rw [sumL_comm]
  exact sumL_congr (fun c _ => sumL_congr (fun b _ => by grind))

/-- **Linearity** in the initial state (basis index / product state / full vector are the same map) -/
theorem C01_apply_linear {R : Type} [Lean.Grind.CommRing R] (U : Mat R) (dims axes : List Nat)
    (c : R) (ψ φ : State R) (idx : Idx) :
    applyOp U dims axes (fun i => c * ψ i + φ i) idx
      = c * applyOp U dims axes ψ idx + applyOp U dims axes φ idx := by
  unfold applyOp
  rw [← sumL_mul_left, ← sumL_add]
  exact sumL_congr (fun b _ => by grind)

end CirqVerif
