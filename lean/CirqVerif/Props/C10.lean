import CirqVerif.Model.C10
/-!
# C10 — a sweep's `__len__` and indexing agree with what iterating it yields; resolving parameters is substitution
-/
namespace CirqVerif.C10

theorem linspaceValues_length (a b : Rat) (n : Nat) : (linspaceValues a b n).length = n := by
  unfold linspaceValues
  split
  · simp_all
  · simp

theorem extendTo_length {n : Nat} {l : List Params} (h : 0 < l.length) (hn : l.length ≤ n) :
    (extendTo n l).length = n := by
  unfold extendTo
  cases hl : l.getLast? with
  | none => rw [List.getLast?_eq_none_iff.mp hl] at h; cases h
  | some last => simp; omega

/-- **`len` is the number of assignments iteration yields**, for every sweep (products, zips,
zip-longest, concatenations, linspaces, points, lists, nested arbitrarily). -/
theorem C10_len_eq_tuples (s : Sweep) (h : WF s) : len s = (tuples s).length := by
  induction s with
  | unit | empty | list => rfl
  | points k vs => simp [len, tuples]
  | linspace k a b n => simp [len, tuples, linspaceValues_length]
  | product a b iha ihb =>
    simp [len, tuples, iha h.1, ihb h.2, List.length_flatMap, List.map_const', List.sum_replicate_nat]
  | zip a b iha ihb => simp [len, tuples, iha h.1, ihb h.2]
  | zipLongest a b iha ihb =>
    obtain ⟨ha, hb, hla, hlb⟩ := h
    rw [iha ha] at hla
    rw [ihb hb] at hlb
    simp only [len, tuples, iha ha, ihb hb, List.length_take, List.length_zipWith,
      extendTo_length hla (Nat.le_max_left _ _), extendTo_length hlb (Nat.le_max_right _ _), Nat.min_self]
  | concat a b iha ihb => simp [len, tuples, iha h.1, ihb h.2]

/-- **Indexing agrees with iteration**, negative indices included; out-of-range indices raise. -/
theorem C10_getItem_eq (s : Sweep) (h : WF s) (i : Int) :
    getItem s i =
      if i < -(len s : Int) ∨ i ≥ (len s : Int) then .error .index
      else match (tuples s)[(if i < 0 then i + (len s : Int) else i).toNat]? with
        | some p => .ok p
        | none => .error .index := rfl

/-- a valid index always succeeds (never the internal `none` branch) -/
theorem C10_getItem_ok (s : Sweep) (h : WF s) (i : Int) (hlo : -(len s : Int) ≤ i) (hhi : i < (len s : Int)) :
    ∃ p, getItem s i = .ok p := by
  have : (if i < 0 then i + (len s : Int) else i).toNat < (tuples s).length := by
    rw [← C10_len_eq_tuples s h]; split <;> omega
  rw [C10_getItem_eq s h, if_neg (by omega), List.getElem?_eq_getElem this]
  exact ⟨_, rfl⟩

/-- **Product order**: the leftmost factor is the outermost loop. -/
theorem C10_product_order (a b : Sweep) :
    tuples (.product a b) = (tuples a).flatMap (fun x => (tuples b).map (fun y => x ++ y)) := rfl

/-- **Zip** stops at the shorter operand; **ZipLongest** runs to the longer one. -/
theorem C10_zip_len (a b : Sweep) : len (.zip a b) = min (len a) (len b) := rfl

theorem C10_zipLongest_len (a b : Sweep) : len (.zipLongest a b) = max (len a) (len b) := rfl

/-- ZipLongest repeats the *last* assignment of the shorter operand -/
theorem C10_extendTo_get (n : Nat) (l : List Params) (last : Params) (hl : l.getLast? = some last) (k : Nat)
    (hk1 : l.length ≤ k) (hk2 : k < n) : (extendTo n l)[k]? = some last := by
  unfold extendTo
  rw [hl]
  rw [List.getElem?_append_right hk1, List.getElem?_replicate]
  simp; omega

/-- `Linspace` end points: first value is `start`, last value is `stop` -/
theorem C10_linspace_endpoints (a b : Rat) (n : Nat) (hn : 2 ≤ n) :
    (linspaceValues a b n)[0]? = some a ∧ (linspaceValues a b n)[n - 1]? = some b := by
  -- `n = m + 1` points, `m ≠ 0`: the first at `p = 0 / m = 0`, the last at `p = m / m = 1`
  obtain ⟨m, rfl⟩ : ∃ m, n = m + 1 := ⟨n - 1, by omega⟩
  have hm : (m : Rat) ≠ 0 := fun h => by have := Rat.natCast_eq_zero_iff.mp h; omega
  have hc : ((m + 1 : Nat) : Rat) - 1 = m := by rw [Rat.natCast_add]; exact Rat.add_sub_cancel
  have p0 : ((0 : Nat) : Rat) / m = 0 := Rat.zero_mul _
  have p1 : (m : Rat) / m = 1 := Rat.mul_inv_cancel _ hm
  rw [linspaceValues, if_neg (by omega), List.getElem?_map, List.getElem?_map, List.getElem?_range (by omega),
    List.getElem?_range (by omega), Nat.add_sub_cancel]
  simp only [Option.map_some, Option.some.injEq, hc, p0, p1]
  exact ⟨by simp [Rat.sub_eq_add_neg, Rat.add_zero], by simp [Rat.sub_self, Rat.zero_add]⟩

theorem evalAt_mkAdd (env : String → Rat) (a b : Expr) : evalAt env (mkAdd a b) = evalAt env a + evalAt env b := by
  unfold mkAdd; split <;> simp [evalAt]

theorem evalAt_mkMul (env : String → Rat) (a b : Expr) : evalAt env (mkMul a b) = evalAt env a * evalAt env b := by
  unfold mkMul; split <;> simp [evalAt]

/-- **One substitution pass commutes with evaluation**: computing the value after substituting the
bindings equals computing the value of the original expression with every bound symbol replaced by the
value of its binding (constant folding changes nothing). -/
theorem C10_subst_commutes (r : Resolver) (env : String → Rat) (e : Expr) :
    evalAt env (subst r e)
      = evalAt (fun n => match lookup r n with | some b => evalAt env b | none => env n) e := by
  induction e with
  | num q => rfl
  | sym n =>
    simp only [subst, evalAt]
    cases lookup r n <;> rfl
  | add a b iha ihb => simp only [subst, evalAt, evalAt_mkAdd, iha, ihb]
  | mul a b iha ihb => simp only [subst, evalAt, evalAt_mkMul, iha, ihb]

def Models (r : Resolver) (env : String → Rat) : Prop :=
  ∀ n b, lookup r n = some b → env n = evalAt env b

/-- **Recursive resolution is sound**: whenever `value_of(e, recursive=True)` returns a value (no loop),
that value equals the original expression under every assignment consistent with the bindings — for every
expression, resolver chain depth and order of bindings. -/
theorem C10_resolveRec_sound (r : Resolver) (env : String → Rat) (hm : Models r env) :
    ∀ (fuel : Nat) (visiting : List String) (e v : Expr),
      resolveRec r fuel visiting e = some v → evalAt env v = evalAt env e := by
  intro fuel visiting e
  -- the cases of the definition: no fuel or a loop (no value); a number, an unbound or self-bound symbol (unchanged);
  -- a bound symbol (its binding, resolved); sums and products
  fun_induction resolveRec r fuel visiting e with
  | case1 | case5 => nofun
  | case2 | case3 | case4 => intro v h; cases h; rfl
  | case6 _ _ n b hb _ _ ih => intro v h; rw [ih v h]; exact (hm n b hb).symm
  | case7 _ _ a b iha ihb | case8 _ _ a b iha ihb =>
    intro v h
    simp only [bind, pure, Option.bind_eq_some_iff, Option.some.injEq] at h
    obtain ⟨x, ha, y, hb, rfl⟩ := h
    simp only [evalAt_mkAdd, evalAt_mkMul, evalAt, iha x ha, ihb y hb]

theorem lookup_map_subst (r1 r2 : Resolver) (n : String) :
    lookup (r1.map (fun (kv : String × Expr) => (kv.1, subst r2 kv.2))) n = (lookup r1 n).map (subst r2) := by
  simp [lookup, List.find?_map, Function.comp_def]

theorem lookup_append (a b : Resolver) (n : String) :
    lookup (a ++ b) n = (lookup a n).or (lookup b n) := by
  simp [lookup, List.find?_append, Option.map_or]

theorem lookup_filter_unbound (r1 r2 : Resolver) (n : String) (h : lookup r1 n = none) :
    lookup (r2.filter (fun (kv : String × Expr) => (lookup r1 kv.1).isNone)) n = lookup r2 n := by
  rw [lookup, List.find?_filter, lookup]
  congr 2
  funext kv
  -- an entry for `n` passes the filter; the search does not stop at any other
  by_cases hk : kv.1 = n
  · simp [hk, h]
  · simp [hk]

theorem lookup_compose (r1 r2 : Resolver) (n : String) :
    lookup (compose r1 r2) n = match lookup r1 n with | some b => some (subst r2 b) | none => lookup r2 n := by
  rw [compose, lookup_append, lookup_map_subst]
  cases h : lookup r1 n with
  | some b => rfl
  | none => simpa using lookup_filter_unbound r1 r2 n h

/-- **composing resolvers equals resolving once with the composition**: substituting with `compose r1 r2` has, under
every assignment of the remaining symbols, the value of substituting with `r1` and then with `r2` -/
theorem C10_compose_resolvers (r1 r2 : Resolver) (env : String → Rat) (e : Expr) :
    evalAt env (subst (compose r1 r2) e) = evalAt env (subst r2 (subst r1 e)) := by
  rw [C10_subst_commutes, C10_subst_commutes r2, C10_subst_commutes r1]
  congr 1
  funext n
  rw [lookup_compose]
  cases lookup r1 n with
  | some b => simp only; rw [C10_subst_commutes]
  | none => rfl

end CirqVerif.C10
