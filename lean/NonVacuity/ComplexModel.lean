import Mathlib.Analysis.SpecialFunctions.Trigonometric.Basic
import CirqVerif.Props.C03b
import CirqVerif.Props.C09b
/-!
# Non-vacuity: the hypotheses of the symbolic gate theorems hold in the intended model

The theorems of `Proofs/GateDocs`, `Proofs/GateMat` and `Props/C03`, `C03b`, `C04Rules`, `C06Rules`, `C08b`, `C09b`, `C17b`, `C19b`
are stated over any commutative ring with a "lawful" environment of elementary functions (`Lawful`, `Lawful2`,
`LawfulQ`, `LawfulQ8`, `LawfulConj`).  Here (and only here) Mathlib is imported, to show that the model the gate documentation
talks about — parameters in ℝ, amplitudes in ℂ, `ph x = e^{iπx}`, real `cos` / `sin` — satisfies every one of
those hypotheses.  So the symbolic theorems are statements about the real matrices, not implications with an
unsatisfiable premise.  This file is a separate `lean_lib` (nothing the compiled driver links imports it).
-/
open CirqVerif.GateDocs CirqVerif.Qasm

namespace CirqVerif.NonVacuity

/-- parameters in ℝ, amplitudes in ℂ, the elementary functions the documentation means -/
noncomputable def cEnv : Env ℝ ℂ where
  I := Complex.I
  half := 1 / 2
  isq2 := ((Real.sqrt 2)⁻¹ : ℝ)
  ph x := Complex.exp (Complex.I * Real.pi * x)
  cosπ x := Real.cos (Real.pi * x)
  sinπ x := Real.sin (Real.pi * x)
  cis x := Complex.exp (Complex.I * x)
  cos x := Real.cos x
  sin x := Real.sin x
  sqrt x := Real.sqrt x
  halfA := 1 / 2
  twoA := 2
  oneA := 1

noncomputable def cEnv2 : Env2 ℝ ℂ where
  toEnv := cEnv
  ratA p q := (p : ℝ) / (q : ℝ)
  ratR p q := ((p : ℝ) / (q : ℝ) : ℝ)
  scaleA a p q := a * (p : ℝ) / (q : ℝ)

theorem cEnv_lawful : Lawful cEnv where
  ph_add x y := by
    simp only [cEnv]; rw [← Complex.exp_add]; congr 1; push_cast; ring
  ph_zero := by simp [cEnv]
  cos_def x := by
    simp only [cEnv]
    rw [show (Real.cos (Real.pi * x) : ℂ) = Complex.cos (Real.pi * x) by push_cast; rfl]
    rw [Complex.cos]; push_cast; ring_nf
  sin_def x := by
    simp only [cEnv]
    rw [show (Real.sin (Real.pi * x) : ℂ) = Complex.sin (Real.pi * x) by push_cast; rfl]
    rw [Complex.sin]; push_cast; ring_nf
  I_sq := Complex.I_mul_I
  half_def := by simp only [cEnv]; norm_num
  isq2_sq := by
    simp only [cEnv]
    rw [← Complex.ofReal_mul, ← mul_inv, Real.mul_self_sqrt (by norm_num)]; push_cast; norm_num
  halfA_def := by simp only [cEnv]; norm_num

theorem cEnv_ph_half : cEnv.ph cEnv.halfA = cEnv.I := by
  simp only [cEnv]
  rw [show Complex.I * (Real.pi : ℂ) * ((1 / 2 : ℝ) : ℂ) = (Real.pi : ℂ) / 2 * Complex.I by push_cast; ring]
  exact Complex.exp_pi_div_two_mul_I

theorem cEnv_lawfulQ : LawfulQ cEnv := { cEnv_lawful with ph_half := cEnv_ph_half }

theorem cEnv_ph_quarter : cEnv.ph (cEnv.halfA * cEnv.halfA) = cEnv.isq2 * (1 + cEnv.I) := by
  simp only [cEnv]
  rw [show Complex.I * (Real.pi : ℂ) * ((1 / 2 * (1 / 2) : ℝ) : ℂ) = ((Real.pi / 4 : ℝ) : ℂ) * Complex.I by push_cast; ring]
  rw [Complex.exp_mul_I, ← Complex.ofReal_cos, ← Complex.ofReal_sin, Real.cos_pi_div_four, Real.sin_pi_div_four]
  have h2 : (Real.sqrt 2)⁻¹ = Real.sqrt 2 / 2 := by
    rw [inv_eq_one_div, div_eq_div_iff (by positivity) (by norm_num)]
    nlinarith [Real.mul_self_sqrt (show (0:ℝ) ≤ 2 by norm_num)]
  rw [h2]; push_cast; ring

theorem cEnv_lawfulQ8 : LawfulQ8 cEnv := { cEnv_lawfulQ with ph_quarter := cEnv_ph_quarter }

theorem cEnv2_lawful2 : Lawful2 cEnv2 where
  toLawful := cEnv_lawful
  rat_0_2 := by simp [cEnv2]
  rat_2_2 := by simp [cEnv2]
  ratR_half := by simp [cEnv2, cEnv]
  ph_one := ph_one cEnv_lawfulQ

/-- the model is not degenerate: distinct parameters give distinct phases, `0 ≠ 1` -/
theorem cEnv_nontrivial : cEnv.ph 0 ≠ cEnv.ph 1 := by
  have h1 : cEnv.ph 1 = -1 := cEnv2_lawful2.ph_one
  rw [cEnv_lawful.ph_zero, h1]; norm_num

/-- the side hypotheses of `C04_decompose_phasediswap` and `C04_decompose_fsim` hold with the half-turn counts `θ/π`, `φ/π` -/
theorem cEnv_twoA : cEnv.twoA = 1 + 1 := by simp only [cEnv]; norm_num

theorem cEnv_fsim_hyps (θ φ : ℝ) :
    cEnv.cos θ = cEnv.cosπ (θ / Real.pi) ∧ cEnv.sin θ = cEnv.sinπ (θ / Real.pi) ∧ cEnv.cis (-φ) = cEnv.ph (-(φ / Real.pi)) := by
  have hpi : Real.pi ≠ 0 := Real.pi_ne_zero
  have e1 : Real.pi * (θ / Real.pi) = θ := by field_simp
  refine ⟨?_, ?_, ?_⟩
  · simp only [cEnv, e1]
  · simp only [cEnv, e1]
  · simp only [cEnv]; congr 1; push_cast; field_simp

theorem cEnv_lawfulConj : LawfulConj cEnv (starRingEnd ℂ) where
  conj_zero := map_zero _
  conj_one := map_one _
  conj_neg x := map_neg _ x
  conj_mul x y := map_mul _ x y
  conj_I := Complex.conj_I
  conj_sqrt _ := Complex.conj_ofReal _

/-- the weights of a probability add up to one: the hypothesis of the trace-preservation theorems holds for every `0 ≤ p ≤ 1` -/
theorem cEnv_weights (p : ℝ) (h0 : 0 ≤ p) (h1 : p ≤ 1) :
    cEnv.sqrt (cEnv.oneA - p) * cEnv.sqrt (cEnv.oneA - p) + cEnv.sqrt p * cEnv.sqrt p = 1 := by
  simp only [cEnv]
  rw [← Complex.ofReal_mul, ← Complex.ofReal_mul, Real.mul_self_sqrt (by linarith), Real.mul_self_sqrt h0]
  push_cast; ring

end CirqVerif.NonVacuity
